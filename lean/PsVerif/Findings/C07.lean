import PsVerif.Proofs.MkCert
/- Witness histories for the known findings of C07 / C15 (crash between the wallet's broadcast and the
   persist that follows).  Not part of any check's obligations. -/
namespace PsVerif.Findings.C07
open PsVerif.Gen PsVerif.Model.Abs PsVerif.Model.AbsMk PsVerif.Proofs.MkCert

def crashy : Env := { trackAgreement := false, crashInBroadcast := true, errorAfterBroadcast := false, scriptFails := false, policyFails := false }
/-- the code before the fix "do not repeat a failed opening broadcast on recovery" -/
def crashyOld : Env := { crashy with retryFailedOpening := true }

/-- an opening transaction is on the chain while the record does not contain it -/
theorem C07_violated_crash_after_broadcast : ∃ m, Reach (sysOut crashy) m ∧ recorded m = false :=
  violation_of_findPath _ recorded 60 (by decide +kernel)

/-- two opening transactions for one swap (C15) in the code before the fix: a failed attempt, the process
    dies with the broadcast-opening state stored, the recovery repeats the attempt and dies between the
    broadcast and the persist, the next recovery broadcasts again -/
theorem C15_violated_second_opening_before_fix : ∃ m, Reach (sysIn crashyOld) m ∧ oneOpening m = false :=
  violation_of_findPath _ oneOpening 60 (by decide +kernel)

end PsVerif.Findings.C07
