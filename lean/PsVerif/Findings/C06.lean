import PsVerif.Props.C06
/-
Witnesses that the FULL statement of C06 is false of this tree's model (and, replayed by the Go
monitor, of the real code): recorded as known findings.  This module is not part of any check's
proof obligations: if the code is repaired these witnesses are expected to stop type-checking.
-/
namespace PsVerif.Findings.C06
open PsVerif.Gen PsVerif.Model.Abs PsVerif.Model.AbsC06 PsVerif.Props.C06

def pendingOnly : Backend := { errorWhilePending := true, crashInPay := false }
def crashOnly : Backend := { errorWhilePending := false, crashInPay := true }

/-- a pay attempt errors while its HTLC is in flight: the taker gives up and reveals its key -/
theorem C06_violated_error_while_pending :
    ∃ m, Reach (sysOut pendingOnly) m ∧ holds m = false := violation_of_findPath _ holds 40 (by decide +kernel)

/-- the process dies between the start of the payment and the next persist -/
theorem C06_violated_crash_in_pay :
    ∃ m, Reach (sysOut crashOnly) m ∧ holds m = false := violation_of_findPath _ holds 40 (by decide +kernel)

/-- hence the full statement fails (the hostile environment allows everything `pendingOnly` allows) -/
theorem C06_statement_false : ¬ C06_statement := by
  intro h
  obtain ⟨m, hr, hb⟩ := violation_of_findPath (sysOut hostile) holds 40 (by decide +kernel)
  rw [h.1 m hr] at hb
  cases hb

end PsVerif.Findings.C06
