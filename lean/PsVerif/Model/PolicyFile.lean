import PsVerif.Base
/-
Model of policy/policy.go: the policy file as a list of lines, the go-flags ini reader for the line
shapes that occur (comments, blank lines, section headers, key=value with optional simple quoting),
and the runtime operations, each of which edits the file textually and then reloads it.

Strings are `List Char` (`Str`).  The file is `lines` (without line terminators) plus `terminated` (the
last line ends with a newline).  `addLineToFile` appends `line ++ "\n"`, after a newline of its own when the
last line is not terminated (since /repo fix b1f63bd; before it the new text was glued to that line).
-/
namespace PsVerif.Model.PolicyFile
open PsVerif

abbrev Str := List Char

structure Policy where
  allow : List Str
  susp : List Str
  acceptAll : Bool
  minMsat : Nat
  reserve : Nat
  allowNew : Bool
  deriving DecidableEq, Repr

def Policy.default : Policy := ⟨[], [], false, 100000000, 0, true⟩

structure File where
  lines : List Str
  terminated : Bool
  deriving DecidableEq, Repr

def kAllow : Str := ['a','l','l','o','w','l','i','s','t','e','d','_','p','e','e','r','s']
def kAllowF : Str := ['P','e','e','r','A','l','l','o','w','l','i','s','t']
def kSusp : Str := ['s','u','s','p','i','c','i','o','u','s','_','p','e','e','r','s']
def kSuspF : Str := ['S','u','s','p','i','c','i','o','u','s','P','e','e','r','L','i','s','t']
def kAcc : Str := ['a','c','c','e','p','t','_','a','l','l','_','p','e','e','r','s']
def kAccF : Str := ['A','c','c','e','p','t','A','l','l','P','e','e','r','s']
def kNew : Str := ['a','l','l','o','w','_','n','e','w','_','s','w','a','p','s']
def kNewF : Str := ['A','l','l','o','w','N','e','w','S','w','a','p','s']
def kMin : Str := ['m','i','n','_','s','w','a','p','_','a','m','o','u','n','t','_','m','s','a','t']
def kMinF : Str := ['M','i','n','S','w','a','p','A','m','o','u','n','t','M','s','a','t']
def kRes : Str := ['r','e','s','e','r','v','e','_','o','n','c','h','a','i','n','_','m','s','a','t']
def kResF : Str := ['R','e','s','e','r','v','e','O','n','c','h','a','i','n','M','s','a','t']
def vTrue : Str := ['t','r','u','e']
def vFalse : Str := ['f','a','l','s','e']

def isSpace (c : Char) : Bool := c = ' ' || c = '\t' || c = '\r' || c = '\n' || c.toNat = 11 || c.toNat = 12

def trimL (l : Str) : Str := l.dropWhile isSpace
def trimR (l : Str) : Str := (l.reverse.dropWhile isSpace).reverse
/-- strings.TrimSpace (ASCII white space) -/
def trim (l : Str) : Str := trimL (trimR l)

def parseBool (s : Str) : Option Bool :=
  if s = [] then some true
  else if [['1'], ['t'], ['T'], ['T','R','U','E'], ['t','r','u','e'], ['T','r','u','e']].contains s then some true
  else if [['0'], ['f'], ['F'], ['F','A','L','S','E'], ['f','a','l','s','e'], ['F','a','l','s','e']].contains s then some false
  else none

def isDigit (c : Char) : Bool := '0' ≤ c ∧ c ≤ '9'

def parseUint (l : Str) : Option Nat :=
  if l.isEmpty || !l.all isDigit then none
  else if l.foldl (fun a c => a * 10 + (c.toNat - '0'.toNat)) 0 > 18446744073709551615 then none
  else some (l.foldl (fun a c => a * 10 + (c.toNat - '0'.toNat)) 0)

/-- splitting at the first '=' -/
def splitEq : Str → Option (Str × Str)
  | [] => none
  | c :: cs => if c = '=' then some ([], cs) else (splitEq cs).map fun kv => (c :: kv.1, kv.2)

/-- value unquoting for the simple case: a leading '"' requires a closing '"' with no quote, backslash
    or control character inside (escapes are outside the model; the harness does not generate them) -/
def unquote (v : Str) : Option Str :=
  match v with
  | '"' :: rest =>
    match rest.reverse with
    | '"' :: innerRev =>
      if innerRev.any (fun c => c = '"' || c = '\\' || c.toNat < 32 || c.toNat = 127) then none else some innerRev.reverse
    | _ => none
  | _ => some v

structure PState where
  pol : Policy
  inSection : Bool           -- after a [section] header: entries belong to a group that does not exist
  allowCleared : Bool        -- go-flags clears a slice option on its first assignment
  suspCleared : Bool
  deriving DecidableEq, Repr

def PState.init : PState := ⟨Policy.default, false, false, false⟩

/-- the option a key names: the `long` name or the Go field name, exactly (go-flags `optionByName`) -/
inductive Field where
  | allow | susp | acc | new | min | res | unknown
  deriving DecidableEq, Repr

def keyField (k : Str) : Field :=
  if k = kAllow ∨ k = kAllowF then .allow
  else if k = kSusp ∨ k = kSuspF then .susp
  else if k = kAcc ∨ k = kAccF then .acc
  else if k = kNew ∨ k = kNewF then .new
  else if k = kMin ∨ k = kMinF then .min
  else if k = kRes ∨ k = kResF then .res
  else .unknown

/-- assignment of a key (outside any section) -/
def assign (st : PState) (key value : Str) : Option PState :=
  match keyField key with
  | .allow =>
    some { st with pol := { st.pol with allow := (if st.allowCleared then st.pol.allow else []) ++ [value] }, allowCleared := true }
  | .susp =>
    some { st with pol := { st.pol with susp := (if st.suspCleared then st.pol.susp else []) ++ [value] }, suspCleared := true }
  | .acc => (parseBool value).map fun b => { st with pol := { st.pol with acceptAll := b } }
  | .new => (parseBool value).map fun b => { st with pol := { st.pol with allowNew := b } }
  | .min => (parseUint value).map fun n => { st with pol := { st.pol with minMsat := n } }
  | .res => (parseUint value).map fun n => { st with pol := { st.pol with reserve := n } }
  | .unknown => some st       -- unknown keys are ignored (IgnoreUnknown)

/-- what a line means to the ini reader -/
inductive Act where
  | skip                      -- blank or comment
  | header                    -- [section]
  | kv (k v : Str)            -- key = value (trimmed, unquoted)
  deriving DecidableEq, Repr

def classifyKV (l : Str) : Option Act :=
  match splitEq l with
  | none => none
  | some (k, v) => (unquote (trim v)).map fun val => Act.kv (trim k) val

/-- reading one line; `none` = the reader rejects the file -/
def classifyT (t : Str) : Option Act :=
  match t with
  | [] => some .skip
  | c :: cs =>
    if c = ';' ∨ c = '#' then some .skip
    else if c = '[' then
      if (c :: cs).getLast? ≠ some ']' then none
      else if (trim cs.dropLast).isEmpty then none
      else some .header
    else classifyKV (c :: cs)

def classify (line : Str) : Option Act := classifyT (trim line)

def applyAct (st : PState) : Act → Option PState
  | .skip => some st
  | .header => some { st with inSection := true }
  | .kv k v => if st.inSection then some st else assign st k v

/-- one line of the file; `none` = the reader or a conversion fails (the whole load fails) -/
def stepLine (st : PState) (line : Str) : Option PState := (classify line).bind (applyAct st)

def parseLines : PState → List Str → Option PState
  | st, [] => some st
  | st, l :: ls => match stepLine st l with
    | none => none
    | some st' => parseLines st' ls

def parse (f : File) : Option Policy := (parseLines PState.init f.lines).map (·.pol)

/-- `addLineToFile`: the option goes on its own line (a missing final newline is supplied first) -/
def addLine (f : File) (line : Str) : File := ⟨f.lines ++ [line], true⟩

/-- bufio.ScanLines drops one trailing carriage return -/
def stripCR (l : Str) : Str := if l.getLast? = some '\r' then l.dropLast else l

/-- `sameOption`: the line sets option `key` to `value` as the ini reader reads it -/
def sameOption (text key value : Str) : Bool :=
  text = key ++ '=' :: value ||
  match splitEq (trim text) with
  | none => false
  | some (k, v) => trim k = key && (unquote (trim v)).getD (trim v) = value

/-- `removeLineFromFile`: drops every line that sets the option, rewrites all kept lines terminated -/
def removeLine (f : File) (key value : Str) : File :=
  ⟨(f.lines.map stripCR).filter (fun l => !sameOption l key value),
   !((f.lines.map stripCR).filter (fun l => !sameOption l key value)).isEmpty⟩

def isHexLower (c : Char) : Bool := ('0' ≤ c ∧ c ≤ '9') || ('a' ≤ c ∧ c ≤ 'f')
/-- `isValidPubkey`: ^[0-9a-f]{66}?\z — 66 lower-case hex characters -/
def validPubkey (s : Str) : Bool := s.length = 66 && s.all isHexLower

def allowLine (pk : Str) : Str := kAllow ++ '=' :: pk
def suspLine (pk : Str) : Str := kSusp ++ '=' :: pk
def boolStr (b : Bool) : Str := if b then vTrue else vFalse
def newLine (b : Bool) : Str := kNew ++ '=' :: boolStr b

structure St where
  file : File
  mem : Policy
  hasPath : Bool
  deriving DecidableEq, Repr

inductive R where
  | ok | errDup | errInvalid | errAbsent | errNoFile | errReload
  deriving DecidableEq, Repr

/-- `ReloadFile` -/
def reload (s : St) : St × R :=
  if !s.hasPath then (s, .errNoFile)
  else match parse s.file with
    | none => (s, .errReload)
    | some p => ({ s with mem := p }, .ok)

def addAllow (s : St) (pk : Str) : St × R :=
  if s.mem.allow.contains pk then (s, .errDup)
  else if !s.hasPath then (s, .errNoFile)
  else if !validPubkey pk then (s, .errInvalid)
  else reload { s with file := addLine s.file (allowLine pk) }

def addSusp (s : St) (pk : Str) : St × R :=
  if s.mem.susp.contains pk then (s, .errDup)
  else if !s.hasPath then (s, .errNoFile)
  else if !validPubkey pk then (s, .errInvalid)
  else reload { s with file := addLine s.file (suspLine pk) }

def removeAllow (s : St) (pk : Str) : St × R :=
  if !validPubkey pk then (s, .errInvalid)
  else if !s.mem.allow.contains pk then (s, .errAbsent)
  else if !s.hasPath then (s, .errNoFile)
  else reload { s with file := removeLine s.file kAllow pk }

def removeSusp (s : St) (pk : Str) : St × R :=
  if !validPubkey pk then (s, .errInvalid)
  else if !s.mem.susp.contains pk then (s, .errAbsent)
  else if !s.hasPath then (s, .errNoFile)
  else reload { s with file := removeLine s.file kSusp pk }

/-- `DisableSwaps` / `EnableSwaps` (the file helpers fail on an empty path: nothing changes) -/
def setNew (s : St) (b : Bool) : St × R :=
  if s.mem.allowNew = b then (s, .ok)
  else if !s.hasPath then (s, .errNoFile)
  else reload { s with file := addLine (removeLine s.file kNew (boolStr (!b))) (newLine b) }

inductive Op where
  | addAllow (pk : Str) | addSusp (pk : Str) | removeAllow (pk : Str) | removeSusp (pk : Str)
  | setNew (b : Bool) | reload
  deriving DecidableEq, Repr

def step (s : St) : Op → St × R
  | .addAllow pk => addAllow s pk
  | .addSusp pk => addSusp s pk
  | .removeAllow pk => removeAllow s pk
  | .removeSusp pk => removeSusp s pk
  | .setNew b => setNew s b
  | .reload => reload s

/-- the answers the next request sees -/
def isPeerAllowed (p : Policy) (peer : Str) : Bool := p.acceptAll || p.allow.contains peer
def isPeerSuspicious (p : Policy) (peer : Str) : Bool := p.susp.contains peer

end PsVerif.Model.PolicyFile
