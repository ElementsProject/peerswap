import PsVerif.Gen.Tables
/-
The abstract swap engine.

`Sys F` is a nondeterministic transition system over micro-configurations
`MC F = (persisted state, flags F, event in flight, process alive?, swap in the active map?)`.
Its control part is the GENERATED state table of a role (Gen/Tables.lean) interpreted exactly as
`SwapStateMachine.SendEvent` / `Recover` do (fsm.go):

  * an external event the current state does not accept leaves everything as it is (the table is
    consulted before anything else);
  * an accepted event's context is applied to the data and persisted, then the transition runs;
  * on a transition the action chain of the NEW state runs, then the record is persisted;
  * `NoOp` and `Event_Done` end the handling (`Done` also removes the swap from the active map),
    `Event_OnRetry` loops (and gives up after 21 rounds), every other result event is handled next;
  * a crash can happen at any persisted point and inside any action (`crashIn`: what the environment
    looks like when the process dies in the middle of that action; the record is unchanged);
  * restart: finished swaps stay as they are, `FailOnrecover` states get `Event_ActionFailed`,
    all others re-execute the action of their persisted state.

What an action does to the flags is NOT generated: `outcomes`/`crashIn`/`applyCtx`/`env` are
hand-written summaries per property, tied to the real actions by the correspondence check
(every persisted configuration the real machine goes through must be a successor here).
-/
namespace PsVerif.Model.Abs
open PsVerif.Gen

def rowOf (tb : List Row) (s : St) : Option Row := tb.find? (fun r => r.st == s)

def nextSt (tb : List Row) (s : St) (e : Ev) : Option St :=
  match rowOf tb s with
  | none => none
  | some r => (r.evs.find? (fun p => p.1 == e)).map (·.2)

def actsOf (tb : List Row) (s : St) : List Act :=
  match rowOf tb s with
  | none => []
  | some r => r.acts

def failOnRecover (tb : List Row) (s : St) : Bool :=
  match rowOf tb s with
  | none => false
  | some r => r.failOnRecover

structure Sys (F : Type) where
  table : List Row
  /-- event context applied to the swap data before the table is consulted; `none` = ApplyToSwapData error -/
  applyCtx : Ev → F → Option F
  /-- complete executions of the action chain of the state just entered: (result event, flags after) -/
  outcomes : St → List Act → F → List (Ev × F)
  /-- flags when the process dies inside that action (persisted part as before, environment possibly changed) -/
  crashIn : St → List Act → F → List F
  /-- flags after a process restart (volatile parts reset) -/
  restart : F → F
  /-- spontaneous environment changes (e.g. a pending HTLC resolves) -/
  env : F → List F
  /-- events the outside world can send to a live swap at rest -/
  ext : List Ev
  init : F

structure MC (F : Type) where
  st : St
  f : F
  pend : Option Ev
  alive : Bool
  active : Bool
  deriving DecidableEq, Repr

def endsHandling (e : Ev) : Bool := e == E_NoOp || e == E_Done

/-- configurations after the action chain of state `s'` ran to completion from flags `f` (the record is
    persisted with the new state and flags) -/
def actionDone {F : Type} (sys : Sys F) (s' : St) (f : F) (active : Bool) : List (MC F) :=
  (sys.outcomes s' (actsOf sys.table s') f).flatMap fun (r, f') =>
    if r == E_Done then [⟨s', f', none, true, false⟩]
    else if r == E_NoOp then [⟨s', f', none, true, active⟩]
    else if r == E_OnRetry then [⟨s', f', some r, true, active⟩, ⟨s', f', none, true, active⟩]
    else [⟨s', f', some r, true, active⟩]

/-- the process dies inside the action chain of state `s'`: the record stays as `orig`, the environment
    part of the flags may have moved -/
def actionCrash {F : Type} (sys : Sys F) (s' : St) (f : F) (orig : MC F) : List (MC F) :=
  (sys.crashIn s' (actsOf sys.table s') f).map (fun f' => { orig with f := f', pend := none, alive := false })

/-- spontaneous environment changes -/
def envSteps {F : Type} (sys : Sys F) (m : MC F) : List (MC F) :=
  (sys.env m.f).map (fun f' => { m with f := f' })

/-- the event in flight is not accepted by the current state: nothing changes -/
def rejectSteps {F : Type} (sys : Sys F) (m : MC F) : List (MC F) :=
  if !m.alive then [] else
  match m.pend with
  | none => []
  | some e => match nextSt sys.table m.st e with
    | none => [{ m with pend := none }]
    | some _ => []

/-- events that carry a message (an `EventContext`); all other outside events (timer, payment and chain
    notifications, a watcher error, and the `Event_Invalid_Message` that a failed validation turns a
    message into) are sent with a nil context -/
def hasCtx (e : Ev) : Bool :=
  e == E_OnCancelReceived || e == E_OnCoopCloseReceived || e == E_OnFeeInvoiceReceived || e == E_OnTxOpenedMessage ||
  e == E_SwapInSender_OnAgreementReceived || e == E_OnSwapOutStarted || e == E_SwapInSender_OnSwapInRequested ||
  e == E_OnSwapOutRequestReceived || e == E_SwapInReceiver_OnRequestReceived

/-- an outside event `e` reaches a swap at rest.  For a message event `SendEvent` consults the table
    FIRST — a message the current state does not accept changes nothing and writes nothing; otherwise its
    context is applied to the swap data and persisted before the transition runs.  A context-free event
    is persisted (unchanged data) and then looked up. -/
def extStep {F : Type} (sys : Sys F) (m : MC F) (e : Ev) : List (MC F) :=
  if hasCtx e && (nextSt sys.table m.st e).isNone then []
  else match sys.applyCtx e m.f with
    | none => []
    | some f1 => [⟨m.st, f1, some e, true, m.active⟩]

/-- steps of a live process that end with a store write: an accepted outside event's context is applied
    and persisted, or the event in flight makes a transition and the new state's action runs -/
def persistSteps {F : Type} (sys : Sys F) (m : MC F) : List (MC F) :=
  if !m.alive then [] else
  match m.pend with
  | none =>
    -- `OnTxConfirmed` with a watcher error sends `ActionFailed` and then, without returning, a second
    -- event through the pointer it still holds, even if the first one finished the swap and removed it
    -- from the active map
    (if m.active then sys.ext else [E_OnTxConfirmed]).flatMap (extStep sys m)
  | some e => match nextSt sys.table m.st e with
    | none => []
    | some s' => actionDone sys s' m.f m.active

/-- the process dies: at a persisted point, or inside the action about to run -/
def crashSteps {F : Type} (sys : Sys F) (m : MC F) : List (MC F) :=
  if !m.alive then [] else
  { m with pend := none, alive := false } ::
  match m.pend with
  | none => []
  | some e => match nextSt sys.table m.st e with
    | none => []
    | some s' => actionCrash sys s' m.f m

/-- restart of a dead process: finished swaps are left alone, `FailOnrecover` states are failed, every
    other state's action is re-executed (and may crash again) -/
def restartSteps {F : Type} (sys : Sys F) (m : MC F) : List (MC F) :=
  if m.alive then [] else
  let f0 := sys.restart m.f
  if isFinished m.st then [⟨m.st, f0, none, true, false⟩]
  else if failOnRecover sys.table m.st then [⟨m.st, f0, some E_ActionFailed, true, true⟩]
  -- a state without an action that is not failed on recovery: `Recover` fails with ErrFsmConfig after
  -- `lockSwap`, so the swap stays in the active map as it is
  else if (actsOf sys.table m.st).isEmpty then [⟨m.st, f0, none, true, true⟩]
  else actionDone sys m.st f0 true ++ actionCrash sys m.st f0 ⟨m.st, f0, none, false, true⟩

def succs {F : Type} (sys : Sys F) (m : MC F) : List (MC F) :=
  envSteps sys m ++ rejectSteps sys m ++ persistSteps sys m ++ crashSteps sys m ++ restartSteps sys m

def initMC {F : Type} (sys : Sys F) : MC F := ⟨.Default, sys.init, none, true, true⟩

/-- every configuration any history can produce: external events in any order at any rest point,
    crashes anywhere, restarts, environment changes — no bound on length -/
inductive Reach {F : Type} (sys : Sys F) : MC F → Prop where
  | init : Reach sys (initMC sys)
  | step {m m' : MC F} : Reach sys m → m' ∈ succs sys m → Reach sys m'

/-! ### certified reachable sets

A certificate is a finite set of configurations, bucketed by state so that membership tests stay cheap
for the kernel.  `explore` is a breadth-first search from the initial configuration; that it ends in a set
which is closed (`closedCert`) when the frontier empties before the fuel runs out, and what closedness gives,
is proved in Proofs/Search.lean. -/

abbrev Rest (F : Type) := F × Option Ev × Bool × Bool
abbrev Cert (F : Type) := List (St × List (Rest F))

def restOf {F : Type} (m : MC F) : Rest F := (m.f, m.pend, m.alive, m.active)
def mcOf {F : Type} (s : St) (r : Rest F) : MC F := ⟨s, r.1, r.2.1, r.2.2.1, r.2.2.2⟩

def Cert.mem {F : Type} [DecidableEq F] (c : Cert F) (m : MC F) : Bool :=
  match c.find? (fun b => b.1 == m.st) with
  | some b => b.2.contains (restOf m)
  | none => false

def Cert.insert {F : Type} [DecidableEq F] (c : Cert F) (m : MC F) : Cert F :=
  if c.any (fun b => b.1 == m.st) then
    c.map fun b => if b.1 == m.st then (b.1, restOf m :: b.2) else b
  else (m.st, [restOf m]) :: c

def Cert.toList {F : Type} (c : Cert F) : List (MC F) :=
  c.flatMap fun b => b.2.map (mcOf b.1)

/-- one sweep: add every successor of the frontier that is not yet in the certificate -/
def sweep {F : Type} [DecidableEq F] (sys : Sys F) (c : Cert F) (frontier : List (MC F)) : Cert F × List (MC F) :=
  frontier.foldl (fun acc m =>
    (succs sys m).foldl (fun (acc : Cert F × List (MC F)) m' =>
      if acc.1.mem m' then acc else (acc.1.insert m', m' :: acc.2)) acc) (c, [])

def explore {F : Type} [DecidableEq F] (sys : Sys F) : Nat → Cert F → List (MC F) → Cert F
  | 0, c, _ => c
  | n + 1, c, frontier =>
    match frontier with
    | [] => c
    | _ =>
      let r := sweep sys c frontier
      explore sys n r.1 r.2

def reachCert {F : Type} [DecidableEq F] (sys : Sys F) (fuel : Nat) : Cert F :=
  explore sys fuel [((initMC sys).st, [restOf (initMC sys)])] [initMC sys]

/-- the certificate contains the initial configuration and is closed under `succs` -/
def closedCert {F : Type} [DecidableEq F] (sys : Sys F) (c : Cert F) : Bool :=
  c.mem (initMC sys) && c.all fun b => b.2.all fun r => (succs sys (mcOf b.1 r)).all fun m' => c.mem m'

/-- every configuration of the certificate satisfies `good` -/
def allGood {F : Type} (c : Cert F) (good : MC F → Bool) : Bool :=
  c.all fun b => b.2.all fun r => good (mcOf b.1 r)

/-! ### concrete histories (used for violation witnesses) -/

/-- `p` starts in the initial configuration and every next element is a successor of the previous one -/
def validPathFrom {F : Type} [DecidableEq F] (sys : Sys F) : MC F → List (MC F) → Bool
  | _, [] => true
  | m, m' :: rest => (succs sys m).contains m' && validPathFrom sys m' rest

def validPath {F : Type} [DecidableEq F] (sys : Sys F) : List (MC F) → Bool
  | [] => false
  | m :: rest => decide (m = initMC sys) && validPathFrom sys m rest

/-- breadth-first search for a shortest history into a configuration satisfying `bad`; the result is only
    a CANDIDATE, it is validated by `validPath` -/
def searchStep {F : Type} [DecidableEq F] (sys : Sys F) (bad : MC F → Bool) :
    Nat → Cert F → List (List (MC F)) → Option (List (MC F))
  | 0, _, _ => none
  | n + 1, seen, frontier =>
    match frontier with
    | [] => none
    | _ =>
      let r := frontier.foldl (fun (acc : Option (List (MC F)) × Cert F × List (List (MC F))) path =>
        match acc.1 with
        | some _ => acc
        | none =>
          match path with
          | [] => acc
          | m :: _ =>
            (succs sys m).foldl (fun (acc : Option (List (MC F)) × Cert F × List (List (MC F))) m' =>
              match acc.1 with
              | some _ => acc
              | none =>
                if bad m' then (some (m' :: path), acc.2.1, acc.2.2)
                else if acc.2.1.mem m' then acc
                else (none, acc.2.1.insert m', (m' :: path) :: acc.2.2)) acc) (none, seen, [])
      match r.1 with
      | some p => some p.reverse
      | none => searchStep sys bad n r.2.1 r.2.2

def findPath {F : Type} [DecidableEq F] (sys : Sys F) (bad : MC F → Bool) (fuel : Nat) : List (MC F) :=
  if bad (initMC sys) then [initMC sys] else
  (searchStep sys bad fuel [((initMC sys).st, [restOf (initMC sys)])] [[initMC sys]]).getD []

end PsVerif.Model.Abs
