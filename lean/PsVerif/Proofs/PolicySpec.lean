import PsVerif.Proofs.PolicyLemmas
/- the policy reader in closed form (`parse_meaning`), and what appending / removing an option does to the
   entries it reads (`Reads`) and to the policy they fold to (`specStep`, `specErase`) -/
namespace PsVerif.Proofs.PolicySpec
open PsVerif.Model.PolicyFile PsVerif.Proofs.PolicyLemmas

def classifyAll : List Str → Option (List Act)
  | [] => some []
  | l :: ls => match classify l, classifyAll ls with
    | some a, some as => some (a :: as)
    | _, _ => none

def runActs : PState → List Act → Option PState
  | st, [] => some st
  | st, a :: as => (applyAct st a).bind (runActs · as)

/-- the key=value entries before the first section header -/
def effKV : List Act → List (Str × Str)
  | [] => []
  | .header :: _ => []
  | .skip :: r => effKV r
  | .kv k v :: r => (k, v) :: effKV r

def hasHeader : List Act → Bool
  | [] => false
  | .header :: _ => true
  | _ :: r => hasHeader r

def okKV (kv : Str × Str) : Bool :=
  match keyField kv.1 with
  | .acc | .new => (parseBool kv.2).isSome
  | .min | .res => (parseUint kv.2).isSome
  | _ => true

def specStep (p : Policy) (kv : Str × Str) : Policy :=
  match keyField kv.1 with
  | .allow => { p with allow := p.allow ++ [kv.2] }
  | .susp => { p with susp := p.susp ++ [kv.2] }
  | .acc => { p with acceptAll := (parseBool kv.2).getD p.acceptAll }
  | .new => { p with allowNew := (parseBool kv.2).getD p.allowNew }
  | .min => { p with minMsat := (parseUint kv.2).getD p.minMsat }
  | .res => { p with reserve := (parseUint kv.2).getD p.reserve }
  | .unknown => p

def assignAll : PState → List (Str × Str) → Option PState
  | st, [] => some st
  | st, kv :: r => (assign st kv.1 kv.2).bind (assignAll · r)

def WF (st : PState) : Prop :=
  (st.allowCleared = false → st.pol.allow = []) ∧ (st.suspCleared = false → st.pol.susp = [])

theorem classifyAll_cons (l : Str) (ls : List Str) :
    classifyAll (l :: ls) = (classify l).bind fun a => (classifyAll ls).map (a :: ·) := by
  rw [classifyAll]
  cases classify l <;> cases classifyAll ls <;> rfl

/-- the reader stops at the first line it rejects or cannot assign; classifying all lines first gives the same -/
theorem parseLines_eq (st : PState) (lines : List Str) :
    parseLines st lines = (classifyAll lines).bind (runActs st) := by
  induction lines generalizing st with
  | nil => rfl
  | cons l ls ih =>
    rw [parseLines, stepLine, classifyAll_cons]
    cases classify l with
    | none => rfl
    | some a =>
      cases ha : applyAct st a with
      | none => cases classifyAll ls <;> simp [runActs, ha]
      | some st' => simp [ih, runActs, ha, Option.bind_map, Function.comp_def]

theorem runActs_inSection (st : PState) (as : List Act) (h : st.inSection = true) : runActs st as = some st := by
  induction as with
  | nil => rfl
  | cons a as ih =>
    have : applyAct st a = some st := by
      cases a <;> simp only [applyAct, h, if_true]
      rw [← h]
    rw [runActs, this]
    exact ih

theorem assign_inSection (st st' : PState) (k v : Str) (h : assign st k v = some st') : st'.inSection = st.inSection := by
  revert h
  unfold assign
  cases keyField k <;> simp only [Option.map_eq_some_iff, Option.some.injEq]
  case allow | susp | unknown => rintro rfl; rfl
  all_goals rintro ⟨_, _, rfl⟩; rfl

theorem assignAll_inSection (st st' : PState) (kvs : List (Str × Str)) (h : assignAll st kvs = some st') :
    st'.inSection = st.inSection := by
  induction kvs generalizing st with
  | nil => cases h; rfl
  | cons kv r ih =>
    rw [assignAll] at h
    obtain ⟨s1, ha, h⟩ := Option.bind_eq_some_iff.mp h
    rw [ih s1 h, assign_inSection _ _ _ _ ha]

/-- outside a section the reader's run is the assignment of the effective entries -/
theorem runActs_eff (st : PState) (as : List Act) (h : st.inSection = false) :
    runActs st as = (assignAll st (effKV as)).map fun s => { s with inSection := hasHeader as } := by
  induction as generalizing st with
  | nil =>
    simp only [runActs, effKV, assignAll, hasHeader, Option.map_some]
    congr 1; cases st; simp_all
  | cons a as ih =>
    cases a with
    | skip => simp only [runActs, applyAct, Option.bind_some, effKV, hasHeader]; exact ih st h
    | header =>
      simp only [runActs, applyAct, Option.bind_some, effKV, hasHeader, assignAll, Option.map_some]
      exact runActs_inSection _ _ rfl
    | kv k v =>
      simp only [runActs, applyAct, h, effKV, assignAll, hasHeader]
      cases ha : assign st k v with
      | none => simp
      | some s1 =>
        simp only [Bool.false_eq_true, if_false, Option.bind_some]
        exact ih s1 (by rw [assign_inSection _ _ _ _ ha, h])

theorem assign_spec (st : PState) (k v : Str) (hw : WF st) :
    (okKV (k, v) = false → assign st k v = none) ∧
    (okKV (k, v) = true → ∃ st', assign st k v = some st' ∧ st'.pol = specStep st.pol (k, v) ∧ WF st') := by
  obtain ⟨hwa, hws⟩ := hw
  cases hk : keyField k <;> simp only [okKV, assign, specStep, hk]
  case allow =>
    refine ⟨nofun, fun _ => ⟨_, rfl, ?_, nofun, hws⟩⟩
    cases hc : st.allowCleared <;> simp [hwa, hc]
  case susp =>
    refine ⟨nofun, fun _ => ⟨_, rfl, ?_, hwa, nofun⟩⟩
    cases hc : st.suspCleared <;> simp [hws, hc]
  case unknown => exact ⟨nofun, fun _ => ⟨_, rfl, rfl, hwa, hws⟩⟩
  case acc | new => cases parseBool v <;> simp; exact ⟨hwa, hws⟩
  case min | res => cases parseUint v <;> simp; exact ⟨hwa, hws⟩

theorem assignAll_spec (st : PState) (kvs : List (Str × Str)) (hw : WF st) :
    (kvs.all okKV = false → assignAll st kvs = none) ∧
    (kvs.all okKV = true → ∃ st', assignAll st kvs = some st' ∧ st'.pol = kvs.foldl specStep st.pol ∧ WF st') := by
  induction kvs generalizing st with
  | nil => exact ⟨by simp, fun _ => ⟨st, rfl, rfl, hw⟩⟩
  | cons kv r ih =>
    obtain ⟨k, v⟩ := kv
    have hs := assign_spec st k v hw
    simp only [List.all_cons, assignAll, List.foldl_cons]
    cases hok : okKV (k, v)
    · simp [hs.1 hok]
    · obtain ⟨s1, h1, h2, h3⟩ := hs.2 hok
      simp only [h1, Option.bind_some, Bool.true_and]
      rw [← h2]
      exact ih s1 h3

/-- **closed form of the reader**: the policy a file yields -/
def meaning (lines : List Str) : Option Policy :=
  match classifyAll lines with
  | none => none
  | some as => if (effKV as).all okKV then some ((effKV as).foldl specStep Policy.default) else none

theorem parse_meaning (f : File) : parse f = meaning f.lines := by
  unfold parse meaning
  rw [parseLines_eq]
  cases hc : classifyAll f.lines with
  | none => rfl
  | some as =>
    simp only [Option.bind_some]
    rw [runActs_eff _ _ rfl]
    have hs := assignAll_spec PState.init (effKV as) ⟨fun _ => rfl, fun _ => rfl⟩
    cases hok : (effKV as).all okKV
    · simp [hs.1 hok]
    · obtain ⟨st', h1, h2, _⟩ := hs.2 hok
      simp only [h1, Option.map_some, if_true, h2]
      rfl

theorem meaning_eq_some (lines : List Str) (p : Policy) : meaning lines = some p ↔
    ∃ as, classifyAll lines = some as ∧ (effKV as).all okKV = true ∧ (effKV as).foldl specStep Policy.default = p := by
  unfold meaning
  cases classifyAll lines <;> simp

theorem classifyAll_cons_some {l : Str} {ls : List Str} {as : List Act} (h : classifyAll (l :: ls) = some as) :
    ∃ a as', classify l = some a ∧ classifyAll ls = some as' ∧ as = a :: as' := by
  simp only [classifyAll_cons, Option.bind_eq_some_iff, Option.map_eq_some_iff] at h
  obtain ⟨a, ha, as', has', rfl⟩ := h
  exact ⟨a, as', ha, has', rfl⟩

theorem classifyAll_append {l₁ l₂ : List Str} {a₁ a₂ : List Act} (h₁ : classifyAll l₁ = some a₁)
    (h₂ : classifyAll l₂ = some a₂) : classifyAll (l₁ ++ l₂) = some (a₁ ++ a₂) := by
  induction l₁ generalizing a₁ with
  | nil => cases h₁; exact h₂
  | cons x r ih =>
    obtain ⟨a, as, ha, has, rfl⟩ := classifyAll_cons_some h₁
    simp [classifyAll_cons, ha, ih has]

theorem classifyAll_map (f : Str → Str) (hf : ∀ l, classify (f l) = classify l) (lines : List Str) :
    classifyAll (lines.map f) = classifyAll lines := by
  induction lines with
  | nil => rfl
  | cons x r ih => simp [classifyAll_cons, hf, ih]

theorem classifyAll_filter (keep : Str → Bool) (q : Act → Bool) (hq : ∀ l a, classify l = some a → keep l = q a)
    {lines : List Str} {as : List Act} (h : classifyAll lines = some as) :
    classifyAll (lines.filter keep) = some (as.filter q) := by
  induction lines generalizing as with
  | nil => cases h; rfl
  | cons x r ih =>
    obtain ⟨a, as', ha, has, rfl⟩ := classifyAll_cons_some h
    rw [List.filter_cons, List.filter_cons, hq x a ha]
    split
    · simp [classifyAll_cons, ha, ih has]
    · exact ih has

theorem hasHeader_iff (as : List Act) : hasHeader as = true ↔ .header ∈ as := by
  induction as with
  | nil => simp [hasHeader]
  | cons a r ih => cases a <;> simp [hasHeader, ih]

theorem hasHeader_append (a b : List Act) : hasHeader (a ++ b) = (hasHeader a || hasHeader b) :=
  Bool.eq_iff_iff.mpr (by simp [hasHeader_iff])

theorem hasHeader_filter (q : Act → Bool) (hq : q .header = true) (as : List Act) :
    hasHeader (as.filter q) = hasHeader as :=
  Bool.eq_iff_iff.mpr (by simp [hasHeader_iff, hq])

theorem effKV_append (a b : List Act) :
    effKV (a ++ b) = effKV a ++ bif hasHeader a then [] else effKV b := by
  induction a with
  | nil => rfl
  | cons x r ih => cases x <;> simp [effKV, hasHeader, ih]

theorem effKV_append_kv (as : List Act) (k v : Str) (h : hasHeader as = false) :
    effKV (as ++ [.kv k v]) = effKV as ++ [(k, v)] := by
  simp [effKV_append, h, effKV]

theorem effKV_append_kv_header (as : List Act) (k v : Str) (h : hasHeader as = true) :
    effKV (as ++ [.kv k v]) = effKV as := by
  simp [effKV_append, h]

theorem effKV_filter (q : Act → Bool) (hq : q .header = true) (as : List Act) :
    effKV (as.filter q) = (effKV as).filter fun kv => q (.kv kv.1 kv.2) := by
  induction as with
  | nil => rfl
  | cons a r ih =>
    rw [List.filter_cons]
    cases a
    · split <;> simp [effKV, ih]
    · simp [hq, effKV]
    · simp only [effKV, List.filter_cons]
      split <;> simp [effKV, ih]

/-- `lines` is a file without [section] header whose key = value entries are `E` -/
def Reads (lines : List Str) (E : List (Str × Str)) : Prop :=
  ∃ as, classifyAll lines = some as ∧ hasHeader as = false ∧ effKV as = E

theorem reads_addLine {f : File} {E : List (Str × Str)} {k v : Str} (h : Reads f.lines E) (hk : OpKey k)
    (hv : Clean v) : Reads (addLine f (k ++ '=' :: v)).lines (E ++ [(k, v)]) := by
  obtain ⟨as, hc, hh, rfl⟩ := h
  refine ⟨as ++ [.kv k v], classifyAll_append hc ?_, ?_, effKV_append_kv as k v hh⟩
  · simp [classifyAll, classify_canon k v hk hv]
  · rw [hasHeader_append, hh]; rfl

theorem reads_removeLine {f : File} {E : List (Str × Str)} {k v : Str} (h : Reads f.lines E) (hk : OpKey k)
    (hv : Clean v) : Reads (removeLine f k v).lines (E.filter fun kv => !decide (kv = (k, v))) := by
  obtain ⟨as, hc, hh, rfl⟩ := h
  refine ⟨as.filter fun a => !decide (a = .kv k v), ?_, ?_, ?_⟩
  · refine classifyAll_filter (fun l => !sameOption l k v) _ ?_ ((classifyAll_map _ classify_stripCR _).trans hc)
    intro l a hl
    simp [← sameOption_classify l k v a hk hv hl]
  · rw [hasHeader_filter _ rfl, hh]
  · rw [effKV_filter _ rfl]
    congr; funext kv; simp [Prod.ext_iff]

/-- the counterpart of `specStep` for the removal of a list entry -/
def specErase (p : Policy) (kv : Str × Str) : Policy :=
  match keyField kv.1 with
  | .allow => { p with allow := p.allow.filter (· ≠ kv.2) }
  | .susp => { p with susp := p.susp.filter (· ≠ kv.2) }
  | _ => p

theorem specErase_specStep_self (p : Policy) (k v : Str) (hl : keyField k = .allow ∨ keyField k = .susp) :
    specErase (specStep p (k, v)) (k, v) = specErase p (k, v) := by
  rcases hl with h | h <;> simp [specErase, specStep, h, List.filter_append]

/-- erasing `(k, v)` commutes with every other entry: one of another option touches another field, one of
    the same option carries another value -/
theorem specErase_specStep (p : Policy) (k v : Str) (x : Str × Str) (hl : keyField k = .allow ∨ keyField k = .susp)
    (hx : keyField x.1 = keyField k → x.2 ≠ v) :
    specErase (specStep p x) (k, v) = specStep (specErase p (k, v)) x := by
  rcases hl with h | h <;> cases hf : keyField x.1 <;> simp only [specErase, specStep, h, hf]
  -- left: `x` sets the option `k` names; its value is not `v`, so the filter keeps it
  all_goals simp [List.filter_append, hx (hf.trans h.symm)]

theorem specStep_allowNew (q : Policy) (c : Bool) (x : Str × Str) :
    ∃ c', specStep { q with allowNew := c } x = { specStep q x with allowNew := c' } := by
  unfold specStep
  split <;> exact ⟨_, rfl⟩

end PsVerif.Proofs.PolicySpec
