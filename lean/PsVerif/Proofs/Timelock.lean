import PsVerif.Model.Timelock
import PsVerif.Proofs.Wrap
import PsVerif.Proofs.Guard
/- What each guard of Model/Timelock.lean lets through. -/
namespace PsVerif.Model
open PsVerif

theorem checkPaymentWindow_ok (set : Bool) (start cur window : Nat) :
    checkPaymentWindow set start cur window = .ok ↔ set = true ∧ start ≤ cur ∧ cur < start + window := by
  unfold checkPaymentWindow
  constructor
  · intro h
    obtain ⟨h1, h⟩ := guard_passed h nofun
    obtain ⟨h2, h⟩ := guard_passed h nofun
    obtain ⟨h3, -⟩ := guard_passed h nofun
    exact ⟨by simpa using h1, by omega, by omega⟩
  · intro ⟨h1, h2, h3⟩
    rw [if_neg (by simp [h1]), if_neg (by omega), if_neg (by omega)]

theorem validateClaimInvoice_ok (msat : Nat) (cltv : Int) (claimSat maxFinal : Nat) :
    validateClaimInvoice msat cltv claimSat maxFinal = .ok ↔
      0 ≤ cltv ∧ cltv.toNat ≤ maxFinal ∧ msat = wrapU64 (claimSat * 1000) := by
  unfold validateClaimInvoice
  constructor
  · intro h
    obtain ⟨h1, h⟩ := guard_passed h nofun
    obtain ⟨h2, -⟩ := guard_passed h nofun
    exact ⟨by omega, by omega, Decidable.not_not.mp h2⟩
  · intro ⟨h1, h2, h3⟩
    rw [if_neg (by omega), if_neg (by omega)]

theorem validateTotalCLTVDelta_ok (required limit : Nat) :
    validateTotalCLTVDelta required limit = .ok ↔ limit = 0 ∨ required ≤ limit := by
  unfold validateTotalCLTVDelta
  constructor
  · intro h
    obtain ⟨h1, -⟩ := guard_passed h nofun
    omega
  · intro h
    rw [if_neg (by omega)]

theorem awaitTxConfLbtc_ok (p : Gen.TimelockPolicy) (cltv : Int) (msat claimSat : Nat) (set : Bool) (start height : Nat) :
    awaitTxConfLbtc p cltv msat claimSat set start height = .ok ↔
      validateClaimInvoice msat cltv claimSat p.finalCltv = .ok ∧ checkPaymentWindow set start height p.window = .ok := by
  unfold awaitTxConfLbtc
  cases validateClaimInvoice msat cltv claimSat p.finalCltv <;> simp

theorem awaitTxConfBtc_ok (csv : Nat) (cltv : Int) (msat claimSat start height : Nat) :
    awaitTxConfBtc csv cltv msat claimSat start height = .ok ↔
      cltv ≤ (csv / 2 : Nat) ∧ msat = wrapU64 (claimSat * 1000) ∧ start ≠ 0 ∧ height < wrapU32 (start + csv / 2) := by
  unfold awaitTxConfBtc
  constructor
  · intro h
    obtain ⟨h1, h⟩ := guard_passed h nofun
    obtain ⟨h2, h⟩ := guard_passed h nofun
    obtain ⟨h3, h⟩ := guard_passed h nofun
    obtain ⟨h4, -⟩ := guard_passed h nofun
    exact ⟨Int.not_lt.mp h1, Decidable.not_not.mp h2, h3, Nat.not_le.mp h4⟩
  · intro ⟨h1, h2, h3, h4⟩
    rw [if_neg (by simp only [Int.ofNat_eq_natCast]; omega), if_neg (by omega), if_neg h3, if_neg (by omega)]

/-- The pay loop's `(now - start) > csv/2` is computed in uint32: a tip BELOW the start height (the chain was
    reorganised back) wraps to a huge distance and stops the loop like a tip beyond the window. -/
theorem payIterationBtc_iff (csv start now : Nat) (hs : start + csv / 2 < 2 ^ 32) (hn : now < 2 ^ 32) :
    payIterationBtc csv start now = true ↔ start ≤ now ∧ now ≤ start + csv / 2 := by
  unfold payIterationBtc
  simp only [Bool.not_eq_true', decide_eq_false_iff_not, Nat.not_lt, Int.ofNat_eq_natCast]
  by_cases h : start ≤ now
  · rw [wrapU32i_eq _ (by omega) (by omega)]; omega
  · rw [wrapU32i_neg _ (by omega) (by omega)]; omega

end PsVerif.Model
