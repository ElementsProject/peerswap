import PsVerif.Model.PeerSync
/-
What the functions of the peer-sync model compute, in the form the proofs of C26 and C28 use them: the
table (`lookup`, `put`), the handler (`storeCap`, `recv`), the request table, and the two halves of a poll
round, each reduced to one decision per peer (`polls`, `asks`).
-/
namespace PsVerif.Model.PeerSync

theorem lookup_cons (e : String × PeerRec) (ps : List (String × PeerRec)) (k : String) :
    lookup (e :: ps) k = if k = e.1 then some e.2 else lookup ps k := by
  unfold lookup
  rw [List.find?_cons]
  by_cases h : k = e.1
  · simp [h]
  · rw [if_neg h, beq_eq_false_iff_ne.mpr (Ne.symm h)]

theorem lookup_put (ps : List (String × PeerRec)) (k k' : String) (r : PeerRec) :
    lookup (put ps k r) k' = if k' = k then some r else lookup ps k' := by
  induction ps with
  | nil => simp [put, lookup_cons]
  | cons e rest ih =>
    obtain ⟨k0, r0⟩ := e
    unfold put
    split
    · next h => subst h; simp only [lookup_cons]; split <;> rfl
    · split
      · simp only [lookup_cons]
      · next h _ =>
        simp only [lookup_cons, ih]
        by_cases hk : k' = k
        · simp [hk, h]
        · simp [hk]

theorem mem_put {ps : List (String × PeerRec)} {k : String} {r : PeerRec} {a : String × PeerRec}
    (h : a ∈ put ps k r) : a = (k, r) ∨ a ∈ ps := by
  induction ps with
  | nil => exact Or.inl (List.mem_singleton.mp h)
  | cons e rest ih =>
    obtain ⟨k0, r0⟩ := e
    unfold put at h
    split at h
    · exact (List.mem_cons.mp h).imp id (List.mem_cons_of_mem _)
    · split at h
      · exact List.mem_cons.mp h
      · rcases List.mem_cons.mp h with h | h
        · exact Or.inr (h ▸ List.mem_cons_self)
        · exact (ih h).imp id (List.mem_cons_of_mem _)

theorem lookup_append {pre : List (String × PeerRec)} {k : String} (h : ∀ a ∈ pre, a.1 < k)
    (l : List (String × PeerRec)) : lookup (pre ++ l) k = lookup l k := by
  have : pre.find? (·.1 == k) = none :=
    List.find?_eq_none.mpr fun a ha he => String.lt_irrefl _ (of_decide_eq_true he ▸ h a ha)
  rw [lookup, List.find?_append, this]
  rfl

theorem put_append {pre : List (String × PeerRec)} {k : String} (h : ∀ a ∈ pre, a.1 < k) (r : PeerRec)
    (l : List (String × PeerRec)) : put (pre ++ l) k r = pre ++ put l k r := by
  induction pre with
  | nil => rfl
  | cons e pre ih =>
    have hlt : e.1 < k := h e List.mem_cons_self
    have h1 : ¬ k = e.1 := fun e => String.lt_irrefl _ (e ▸ hlt)
    have h2 : ¬ k < e.1 := fun e => String.lt_irrefl _ (String.lt_trans e hlt)
    simp only [List.cons_append, put, h1, h2, if_false]
    rw [ih fun a ha => h a (List.mem_cons_of_mem _ ha)]

theorem markStored_mid {s : St} {pre rest : List (String × PeerRec)} {k : String} {r : PeerRec}
    (hs : s.peers = pre ++ (k, r) :: rest) (h : ∀ a ∈ pre, a.1 < k) :
    markStored s k = { s with peers := pre ++ (k, reload { r with lastPoll := some s.now }) :: rest } := by
  unfold markStored
  rw [hs, lookup_append h, lookup_cons, if_pos rfl]
  simp only
  rw [put_append h, put, if_pos rfl]

theorem storeCap_suspicious (s : St) (src : String) (c : Cap) : (storeCap s src c).suspicious = s.suspicious := by
  unfold storeCap; split <;> rfl

theorem markStored_suspicious (s : St) (k : String) : (markStored s k).suspicious = s.suspicious := by
  unfold markStored; split <;> rfl

/-- whatever the message type, the handler stores a payload that parses and nothing else (for a suspicious
    source `storeCap` itself is the identity) -/
theorem recv_fst (s : St) (t : MsgType) (src : String) (p : Option Cap) :
    (recv s t src p).1 = match p with | none => s | some c => storeCap s src c := by
  cases t with
  | poll => rfl
  | requestPoll =>
    simp only [recv]
    split
    · next h => cases p with
      | none => rfl
      | some c => exact (if_pos h).symm
    · rfl

theorem find?_filter_key (lr : List (String × Nat)) {q : String → Bool} {k : String} (hq : q k = true) :
    (lr.filter fun e => q e.1).find? (·.1 == k) = lr.find? (·.1 == k) := by
  rw [List.find?_filter]
  congr 1; funext e
  by_cases he : e.1 = k
  · simp [he, hq]
  · simp [he]

theorem find?_setReq (lr : List (String × Nat)) (k' k : String) (t : Nat) :
    (setReq lr k' t).find? (·.1 == k) = if k' = k then some (k', t) else lr.find? (·.1 == k) := by
  unfold setReq
  rw [List.find?_cons]
  by_cases h : k' = k
  · simp [h]
  · simp only [beq_eq_false_iff_ne.mpr h, if_neg h]
    exact find?_filter_key lr (q := (· != k')) (by simp [Ne.symm h])

theorem allowRequest_setReq_other {k k' : String} (h : k' ≠ k) (cfg : Cfg) (lr : List (String × Nat)) (now t : Nat)
    (force : Bool) : allowRequest cfg (setReq lr k' t) now force k = allowRequest cfg lr now force k := by
  unfold allowRequest
  rw [find?_setReq, if_neg h]

theorem allowRequest_filter {q : String → Bool} {k : String} (hq : q k = true) (cfg : Cfg) (lr : List (String × Nat))
    (now : Nat) (force : Bool) :
    allowRequest cfg (lr.filter fun e => q e.1) now force k = allowRequest cfg lr now force k := by
  unfold allowRequest
  rw [find?_filter_key lr hq]

theorem mem_dedup (l : List String) (k : String) : k ∈ dedup l ↔ k ∈ l := by
  induction l with
  | nil => rfl
  | cons a r ih =>
    unfold dedup
    split
    · next h =>
      rw [ih, List.mem_cons]
      exact ⟨Or.inr, fun hh => hh.elim (fun e => e ▸ List.contains_iff_mem.mp h) id⟩
    · simp [ih]

theorem nodup_dedup (l : List String) : (dedup l).Nodup := by
  induction l with
  | nil => exact List.nodup_nil
  | cons a r ih =>
    unfold dedup
    split
    · exact ih
    · next h => exact List.nodup_cons.mpr ⟨fun hm => h (List.contains_iff_mem.mpr ((mem_dedup r a).mp hm)), ih⟩

/-- the round's decision to poll a known peer, taken from its record -/
def polls (cfg : Cfg) (now : Nat) (susp : List String) (force : Bool) (fails : List String)
    (e : String × PeerRec) : Bool :=
  (force || shouldPoll cfg now e.2) && !susp.contains e.1 && !fails.contains e.1

theorem polls_eq_true {cfg : Cfg} {now : Nat} {susp : List String} {force : Bool} {fails : List String}
    {e : String × PeerRec} : polls cfg now susp force fails e = true ↔
      (force || shouldPoll cfg now e.2) = true ∧ susp.contains e.1 = false ∧ fails.contains e.1 = false := by
  simp only [polls, Bool.and_eq_true, Bool.not_eq_true', and_assoc]

theorem ite_polls {α : Type} (cfg : Cfg) (now : Nat) (susp : List String) (force : Bool) (fails : List String)
    (k : String) (r : PeerRec) (a b : α) :
    (if !force && !shouldPoll cfg now r then a else if susp.contains k then a else if fails.contains k then a else b)
      = if polls cfg now susp force fails (k, r) then b else a := by
  unfold polls
  cases force <;> cases shouldPoll cfg now r <;> cases susp.contains k <;> cases fails.contains k <;> rfl

theorem pollKnown_eq (cfg : Cfg) (s : St) (force : Bool) (fails : List String) (ps : List (String × PeerRec)) :
    pollKnown cfg s force fails ps =
      (ps.map fun e => if polls cfg s.now s.suspicious force fails e
          then (e.1, reload { e.2 with lastPoll := some s.now }) else e,
       (ps.filter (polls cfg s.now s.suspicious force fails)).map fun e =>
          (e.1, if isStale cfg s.now e.2 then MsgType.requestPoll else MsgType.poll)) := by
  induction ps with
  | nil => rfl
  | cons e rest ih =>
    obtain ⟨k, r⟩ := e
    simp only [pollKnown, ih, ite_polls, List.map_cons, List.filter_cons]
    split <;> rfl

theorem pollKnown_sent {s : St} {ps : List (String × PeerRec)} {k : String} {ty : MsgType}
    (h : (k, ty) ∈ (pollKnown cfg s force fails ps).2) :
    ∃ r, (k, r) ∈ ps ∧ polls cfg s.now s.suspicious force fails (k, r) = true := by
  rw [pollKnown_eq] at h
  obtain ⟨e, he, hk⟩ := List.mem_map.mp h
  obtain rfl : e.1 = k := congrArg Prod.fst hk
  exact ⟨e.2, List.mem_filter.mp he⟩

theorem knownSchedule_eq (cfg : Cfg) (now : Nat) (susp : List String) (force : Bool) (fails : List String)
    (d : During) (ps : List (String × PeerRec)) :
    knownSchedule cfg now susp force fails d ps =
      (ps.filter (polls cfg now susp force fails)).flatMap fun e =>
        IlOp.send e.1 (if isStale cfg now e.2 then MsgType.requestPoll else MsgType.poll) ::
          (duringOps d e.1 ++ [IlOp.mark e.1]) := by
  induction ps with
  | nil => rfl
  | cons e rest ih =>
    obtain ⟨k, r⟩ := e
    simp only [knownSchedule, ih, ite_polls, List.filter_cons]
    split
    · simp
    · rfl

theorem runIl_append (s : St) (a b : List IlOp) : (runIl s (a ++ b)).1 = (runIl (runIl s a).1 b).1 := by
  induction a generalizing s with
  | nil => rfl
  | cons op rest ih => exact ih _

theorem round_peers (cfg : Cfg) (s : St) (force : Bool) (fails : List String) (lf : Bool) :
    (round cfg s force fails lf).1.peers = (pollKnown cfg s force fails s.peers).1 := by
  unfold round; cases lf <;> rfl

/-- the round's decision to send a request to a connected peer, taken from the request table `lr` -/
def asks (cfg : Cfg) (now : Nat) (force : Bool) (known susp : List String) (lr : List (String × Nat))
    (k : String) : Bool :=
  !known.contains k && !susp.contains k && allowRequest cfg lr now force k

variable {cfg : Cfg} {now : Nat} {force : Bool} {known susp fails : List String} {lr : List (String × Nat)}

theorem asks_eq_true {k : String} : asks cfg now force known susp lr k = true ↔
    known.contains k = false ∧ susp.contains k = false ∧ allowRequest cfg lr now force k = true := by
  simp only [asks, Bool.and_eq_true, Bool.not_eq_true', and_assoc]

theorem requestUnknown_cons (k : String) (rest : List String) :
    requestUnknown cfg now force known susp fails lr (k :: rest) =
      if asks cfg now force known susp lr k then
        ((requestUnknown cfg now force known susp fails (setReq lr k now) rest).1,
         (if fails.contains k then [] else [(k, MsgType.requestPoll)]) ++
           (requestUnknown cfg now force known susp fails (setReq lr k now) rest).2)
      else requestUnknown cfg now force known susp fails lr rest := by
  rw [requestUnknown, asks]
  cases known.contains k <;> cases susp.contains k <;> cases allowRequest cfg lr now force k <;> rfl

theorem asks_setReq_other {k k' : String} (h : k' ≠ k) (t : Nat) :
    asks cfg now force known susp (setReq lr k' t) k = asks cfg now force known susp lr k := by
  unfold asks
  rw [allowRequest_setReq_other h]

/-- a request goes only to a connected peer that the round decides to ask on the table as it stood at the
    start: each peer is visited once, and a visit changes the visited peer's request time only -/
theorem requestUnknown_sent {conn : List String} {k : String} {ty : MsgType} (hn : conn.Nodup)
    (h : (k, ty) ∈ (requestUnknown cfg now force known susp fails lr conn).2) :
    k ∈ conn ∧ asks cfg now force known susp lr k = true := by
  induction conn generalizing lr with
  | nil => cases h
  | cons k0 rest ih =>
    obtain ⟨hk0, hn'⟩ := List.nodup_cons.mp hn
    rw [requestUnknown_cons] at h
    split at h
    · next hask =>
      rcases List.mem_append.mp h with h | h
      · obtain rfl : k = k0 := by
          split at h
          · cases h
          · exact congrArg Prod.fst (List.mem_singleton.mp h)
        exact ⟨List.mem_cons_self, hask⟩
      · obtain ⟨hm, ha⟩ := ih hn' h
        exact ⟨List.mem_cons_of_mem _ hm, asks_setReq_other (fun e : k0 = k => hk0 (e ▸ hm)) now ▸ ha⟩
    · exact (ih hn' h).imp_left (List.mem_cons_of_mem _)

/-- everything a poll round sends: a poll to a known peer it decides to poll, or a request to a connected
    peer it decides to ask (the pruning of the request table does not touch a connected peer's entry) -/
theorem round_sent {s : St} {lf : Bool} {k : String} {ty : MsgType}
    (h : (k, ty) ∈ (round cfg s force fails lf).2) :
    (∃ r, (k, r) ∈ s.peers ∧ polls cfg s.now s.suspicious force fails (k, r) = true) ∨
    (k ∈ s.connected ∧ asks cfg s.now force (s.peers.map (·.1)) s.suspicious s.lastReq k = true) := by
  unfold round at h
  cases lf with
  | true => exact Or.inl (pollKnown_sent h)
  | false =>
    rcases List.mem_append.mp h with h | h
    · exact Or.inl (pollKnown_sent h)
    · obtain ⟨hm, ha⟩ := requestUnknown_sent (nodup_dedup _) h
      have hc : k ∈ s.connected := (mem_dedup _ _).mp hm
      rw [asks, allowRequest_filter (q := s.connected.contains) (List.contains_iff_mem.mpr hc)] at ha
      exact Or.inr ⟨hc, ha⟩

end PsVerif.Model.PeerSync
