import PsVerif.Base
/- Go's fixed-width conversions (Base.lean): the identity on values the target type holds, and the two wrap-arounds
   the models rely on. -/
namespace PsVerif

theorem wrapI64_eq (x : Int) (lo : -(2 ^ 63) ≤ x) (hi : x < 2 ^ 63) : wrapI64 x = x := by
  unfold wrapI64
  simp only
  split <;> omega

theorem u64ToI64_eq (n : Nat) (h : n < 2 ^ 63) : u64ToI64 n = n :=
  wrapI64_eq n (by omega) (by omega)

theorem wrapU64_eq (n : Nat) (h : n < 2 ^ 64) : wrapU64 n = n := Nat.mod_eq_of_lt h
theorem wrapU32_eq (n : Nat) (h : n < 2 ^ 32) : wrapU32 n = n := Nat.mod_eq_of_lt h

theorem wrapU64i_eq (x : Int) (lo : 0 ≤ x) (hi : x < 2 ^ 64) : wrapU64i x = x.toNat := by
  unfold wrapU64i
  omega

theorem wrapU32i_eq (x : Int) (lo : 0 ≤ x) (hi : x < 2 ^ 32) : wrapU32i x = x.toNat := by
  unfold wrapU32i
  omega

/-- Go's `a - b` on uint64, which the models write `wrapU64 (a + 2^64 - b)`, is the difference when nothing is borrowed -/
theorem wrapU64_add_sub {a b : Nat} (hb : b ≤ a) (ha : a < 2 ^ 64) :
    wrapU64 (a + 18446744073709551616 - b) = a - b := by
  rw [wrapU64, Nat.sub_add_comm hb, Nat.add_mod_right]
  exact Nat.mod_eq_of_lt (Nat.lt_of_le_of_lt (Nat.sub_le a b) ha)

/-- a negative difference of two uint32 values wraps around to the top of the range -/
theorem wrapU32i_neg (x : Int) (lo : -(2 ^ 32) ≤ x) (hi : x < 0) : wrapU32i x = (x + 2 ^ 32).toNat := by
  unfold wrapU32i
  omega

end PsVerif
