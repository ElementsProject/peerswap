import PsVerif.Model.Abs
/-
What is proved about the searches of Model/Abs.lean.

A closed certificate contains every reachable configuration, so what holds on it holds in every history
(`invariant_of_cert`).  The breadth-first search is correct: when it stops because the frontier is empty (and
not because the fuel ran out) the set it has built is closed (`closed_of_done`).  So ONE evaluation of the
search by the kernel gives the certificate, the invariant, and whatever else is read off the certificate
(`certified`, `certified_spec`); nothing is re-checked over the finished certificate.  A history proposed by
`findPath` is only a candidate; `validPath` makes it a witness (`violation_of_findPath`).
-/
namespace PsVerif.Model.Abs
open PsVerif.Gen

theorem mcOf_restOf {F : Type} (m : MC F) : mcOf m.st (restOf m) = m := by
  cases m; rfl

theorem Cert.mem_toList {F : Type} (c : Cert F) (m : MC F) :
    m ∈ c.toList ↔ ∃ b ∈ c, restOf m ∈ b.2 ∧ b.1 = m.st := by
  simp only [Cert.toList, List.mem_flatMap, List.mem_map]
  constructor
  · rintro ⟨b, hb, r, hr, rfl⟩; exact ⟨b, hb, hr, rfl⟩
  · rintro ⟨b, hb, hr, hs⟩; exact ⟨b, hb, _, hr, by rw [hs, mcOf_restOf]⟩

theorem allGood_iff {F : Type} (c : Cert F) (good : MC F → Bool) :
    allGood c good = true ↔ ∀ m ∈ c.toList, good m = true := by
  simp only [allGood, List.all_eq_true, Cert.toList, List.mem_flatMap, List.mem_map]
  exact ⟨fun h m ⟨b, hb, r, hr, e⟩ => e ▸ h b hb r hr, fun h b hb r hr => h _ ⟨b, hb, r, hr, rfl⟩⟩

variable {F : Type} [DecidableEq F]

theorem Cert.mem_toList_of_mem (c : Cert F) (m : MC F) (h : c.mem m = true) : m ∈ c.toList := by
  unfold Cert.mem at h
  split at h
  · rename_i b hb
    exact (Cert.mem_toList c m).mpr ⟨b, List.mem_of_find?_eq_some hb, by simpa using h, by simpa using List.find?_some hb⟩
  · cases h

theorem closedCert_iff (sys : Sys F) (c : Cert F) : closedCert sys c = true ↔
    c.mem (initMC sys) = true ∧ ∀ m ∈ c.toList, ∀ m' ∈ succs sys m, c.mem m' = true := by
  simp only [closedCert, Bool.and_eq_true, List.all_eq_true, Cert.toList, List.mem_flatMap, List.mem_map]
  exact and_congr_right fun _ =>
    ⟨fun h m ⟨b, hb, r, hr, e⟩ => e ▸ h b hb r hr, fun h b hb r hr => h _ ⟨b, hb, r, hr, rfl⟩⟩

theorem reach_in_cert (sys : Sys F) (c : Cert F) (h : closedCert sys c = true) : ∀ m, Reach sys m → c.mem m = true := by
  rw [closedCert_iff] at h
  intro m hm
  induction hm with
  | init => exact h.1
  | @step m m' _ hs ih => exact h.2 m (c.mem_toList_of_mem m ih) m' hs

/-- a property that holds on a closed certificate holds in every reachable configuration, i.e. after
    every history of external events, crashes, restarts and environment changes of any length -/
theorem invariant_of_cert {F : Type} [DecidableEq F] (sys : Sys F) (c : Cert F) (good : MC F → Bool)
    (hc : closedCert sys c = true) (hg : allGood c good = true) : ∀ m, Reach sys m → good m = true :=
  fun m hm => (allGood_iff c good).mp hg m (c.mem_toList_of_mem m (reach_in_cert sys c hc m hm))

/-- the bucket `Cert.mem` looks into: the first one for the state -/
def Cert.get (c : Cert F) (s : St) : List (Rest F) :=
  match c.find? (fun b => b.1 == s) with
  | some b => b.2
  | none => []

theorem Cert.mem_eq (c : Cert F) (m : MC F) : c.mem m = (c.get m.st).contains (restOf m) := by
  unfold Cert.mem Cert.get
  cases c.find? (fun b => b.1 == m.st) <;> rfl

theorem Cert.get_insert (c : Cert F) (m : MC F) (s : St) :
    (c.insert m).get s = if s = m.st then restOf m :: c.get s else c.get s := by
  unfold Cert.insert Cert.get
  by_cases ha : (c.any fun b => b.1 == m.st) = true
  · -- the map changes no key, so it commutes with the lookup
    have hkey : ((fun b : St × List (Rest F) => b.1 == s) ∘ fun b => if b.1 == m.st then (b.1, restOf m :: b.2) else b)
        = fun b => b.1 == s := by
      funext b; simp only [Function.comp]; split <;> rfl
    rw [if_pos ha, List.find?_map, hkey]
    cases hf : c.find? (fun b => b.1 == s) with
    | some b =>
      have hb : b.1 = s := by simpa using List.find?_some hf
      by_cases hs : s = m.st <;> simp [hs, hb]
    | none =>
      have hs : s ≠ m.st := by
        rintro rfl
        obtain ⟨b, hb, hbs⟩ := List.any_eq_true.mp ha
        exact absurd hbs (List.find?_eq_none.mp hf b hb)
      simp [hs]
  · have hnone : c.find? (fun b => b.1 == m.st) = none :=
      List.find?_eq_none.mpr fun b hb hbs => ha (List.any_eq_true.mpr ⟨b, hb, hbs⟩)
    rw [if_neg ha, List.find?_cons]
    by_cases hs : s = m.st
    · simp [hs, hnone]
    · have : (m.st == s) = false := beq_false_of_ne (Ne.symm hs)
      simp [hs, this]

theorem Cert.mem_insert (c : Cert F) (m x : MC F) (h : x = m ∨ c.mem x = true) : (c.insert m).mem x = true := by
  rw [Cert.mem_eq, Cert.get_insert] at *
  rcases h with rfl | h
  · simp
  · split
    · simp only [List.contains_cons, h, Bool.or_true]
    · exact h

/-- `insert` adds to every bucket of the state, also to one `mem` never looks into: nothing but `m` is new -/
theorem Cert.mem_toList_insert (c : Cert F) (m x : MC F) (h : x ∈ (c.insert m).toList) : x = m ∨ x ∈ c.toList := by
  unfold Cert.insert at h
  split at h
  · simp only [Cert.toList, List.mem_flatMap, List.mem_map] at h ⊢
    obtain ⟨_, ⟨b, hb, rfl⟩, r, hr, rfl⟩ := h
    by_cases hs : (b.1 == m.st) = true
    · simp only [hs, if_true] at hr ⊢
      rcases List.mem_cons.mp hr with rfl | hr
      · left; rw [eq_of_beq hs, mcOf_restOf]
      · right; exact ⟨b, hb, r, hr, rfl⟩
    · simp only [hs] at hr ⊢
      right; exact ⟨b, hb, r, hr, rfl⟩
  · simp only [Cert.toList, List.flatMap_cons, List.mem_append, List.map_cons, List.map_nil, List.mem_singleton] at h ⊢
    rcases h with h | h
    · left; rw [h, mcOf_restOf]
    · right; exact h

/-- what `sweep` does with one successor -/
def visit (acc : Cert F × List (MC F)) (m' : MC F) : Cert F × List (MC F) :=
  if acc.1.mem m' then acc else (acc.1.insert m', m' :: acc.2)

theorem sweep_eq (sys : Sys F) (c : Cert F) (fr : List (MC F)) :
    sweep sys c fr = (fr.flatMap (succs sys)).foldl visit (c, []) := by
  rw [List.foldl_flatMap]; rfl

/-- `acc'` holds all of `acc` and of `l`, and whatever is new in it is on its frontier -/
structure Extends (acc acc' : Cert F × List (MC F)) (l : List (MC F)) : Prop where
  mem : ∀ x, x ∈ l ∨ acc.1.mem x = true → acc'.1.mem x = true
  new : ∀ x ∈ acc'.1.toList, x ∈ acc.1.toList ∨ x ∈ acc'.2
  frontier : ∀ x ∈ acc.2, x ∈ acc'.2

theorem Extends.trans {a b c : Cert F × List (MC F)} {l l' : List (MC F)} (h : Extends a b l) (h' : Extends b c l') :
    Extends a c (l ++ l') where
  mem x hx := h'.mem x <| match hx with
    | .inl hx => (List.mem_append.mp hx).symm.imp_right fun hl => h.mem x (.inl hl)
    | .inr hx => .inr (h.mem x (.inr hx))
  new x hx := (h'.new x hx).elim (fun hb => (h.new x hb).imp_right (h'.frontier x)) .inr
  frontier x hx := h'.frontier x (h.frontier x hx)

theorem extends_visit (acc : Cert F × List (MC F)) (m' : MC F) : Extends acc (visit acc m') [m'] := by
  unfold visit
  split
  · rename_i h
    exact ⟨fun x hx => hx.elim (fun hx => List.mem_singleton.mp hx ▸ h) id, fun _ h => .inl h, fun _ h => h⟩
  · exact ⟨fun x hx => Cert.mem_insert _ _ _ (hx.imp_left List.mem_singleton.mp),
      fun x hx => (Cert.mem_toList_insert _ _ _ hx).elim (fun h => .inr (h ▸ List.mem_cons_self)) .inl,
      fun x hx => List.mem_cons_of_mem _ hx⟩

theorem extends_foldl (l : List (MC F)) : ∀ acc : Cert F × List (MC F), Extends acc (l.foldl visit acc) l := by
  induction l with
  | nil => exact fun acc => ⟨fun x h => h.resolve_left List.not_mem_nil, fun x h => .inl h, fun x h => h⟩
  | cons m l ih => exact fun acc => (extends_visit acc m).trans (ih _)

/-- the search's invariant -/
def Expanded (sys : Sys F) (c : Cert F) (fr : List (MC F)) : Prop :=
  ∀ m ∈ c.toList, m ∈ fr ∨ ∀ m' ∈ succs sys m, c.mem m' = true

theorem expanded_sweep (sys : Sys F) (c : Cert F) (fr : List (MC F)) (h : Expanded sys c fr) :
    Expanded sys (sweep sys c fr).1 (sweep sys c fr).2 ∧ ∀ x, c.mem x = true → (sweep sys c fr).1.mem x = true := by
  rw [sweep_eq]
  have hx := extends_foldl (fr.flatMap (succs sys)) (c, [])
  refine ⟨fun m hm => ?_, fun x hx' => hx.mem x (.inr hx')⟩
  rcases hx.new m hm with hc | hf
  · right
    intro m' hm'
    rcases h m hc with hfr | hall
    · exact hx.mem m' (.inl (List.mem_flatMap.mpr ⟨m, hfr, hm'⟩))
    · exact hx.mem m' (.inr (hall m' hm'))
  · exact .inl hf

/-- `explore`, except that it says whether the frontier emptied before the fuel ran out -/
def exploreDone (sys : Sys F) : Nat → Cert F → List (MC F) → Option (Cert F)
  | 0, c, frontier => if frontier.isEmpty then some c else none
  | n + 1, c, frontier =>
    match frontier with
    | [] => some c
    | _ =>
      let r := sweep sys c frontier
      exploreDone sys n r.1 r.2

theorem explore_of_done (sys : Sys F) : ∀ (n : Nat) (c : Cert F) (fr : List (MC F)) (c' : Cert F),
    exploreDone sys n c fr = some c' → explore sys n c fr = c'
  | 0, c, fr, c', h => by
    unfold exploreDone at h
    split at h
    · exact Option.some.inj h
    · cases h
  | _ + 1, _, [], _, h => Option.some.inj h
  | n + 1, _, _ :: _, c', h => explore_of_done sys n _ _ c' h

theorem closed_of_done (sys : Sys F) : ∀ (n : Nat) (c : Cert F) (fr : List (MC F)) (c' : Cert F),
    exploreDone sys n c fr = some c' → c.mem (initMC sys) = true → Expanded sys c fr → closedCert sys c' = true
  | n, c, [], c', h, hi, he => by
    have : c = c' := by cases n <;> exact Option.some.inj h
    subst this
    exact (closedCert_iff sys c).mpr ⟨hi, fun m hm => (he m hm).resolve_left List.not_mem_nil⟩
  | 0, _, _ :: _, _, h, _, _ => by simp [exploreDone] at h
  | n + 1, c, _ :: _, c', h, hi, he =>
    closed_of_done sys n _ _ c' h ((expanded_sweep sys c _ he).2 _ hi) (expanded_sweep sys c _ he).1

/-- the search from the initial configuration ends within `fuel` sweeps, every configuration it found is `good`,
    and `facts` holds of the certificate it built (which is `reachCert sys fuel`) -/
def certified (sys : Sys F) (fuel : Nat) (good : MC F → Bool) (facts : Cert F → Bool := fun _ => true) : Bool :=
  match exploreDone sys fuel [((initMC sys).st, [restOf (initMC sys)])] [initMC sys] with
  | some c => allGood c good && facts c
  | none => false

/-- what one evaluation of `certified` by the kernel establishes -/
theorem certified_spec {sys : Sys F} {fuel : Nat} {good : MC F → Bool} {facts : Cert F → Bool}
    (h : certified sys fuel good facts = true) :
    (∀ m, Reach sys m → good m = true) ∧ facts (reachCert sys fuel) = true := by
  unfold certified at h
  split at h
  · rename_i c hc
    rw [show reachCert sys fuel = c from explore_of_done sys _ _ _ c hc]
    rw [Bool.and_eq_true] at h
    refine ⟨invariant_of_cert sys c good (closed_of_done sys _ _ _ c hc (by simp [Cert.mem]) ?_) h.1, h.2⟩
    intro m hm
    simp only [Cert.toList, List.flatMap_cons, List.flatMap_nil, List.map_cons, List.map_nil, List.append_nil,
      List.mem_singleton] at hm
    exact Or.inl (by rw [hm, mcOf_restOf]; exact List.mem_singleton.mpr rfl)
  · cases h

theorem reach_of_validPathFrom (sys : Sys F) (m : MC F) (p : List (MC F))
    (hm : Reach sys m) (h : validPathFrom sys m p = true) : ∀ x ∈ p, Reach sys x := by
  induction p generalizing m with
  | nil => intro x hx; cases hx
  | cons m' rest ih =>
    simp only [validPathFrom, Bool.and_eq_true, List.contains_iff_mem] at h
    have hm' : Reach sys m' := Reach.step hm h.1
    intro x hx
    cases hx with
    | head => exact hm'
    | tail _ hx => exact ih m' hm' h.2 x hx

theorem reach_of_validPath (sys : Sys F) (p : List (MC F))
    (h : validPath sys p = true) : ∀ x ∈ p, Reach sys x := by
  cases p with
  | nil => simp [validPath] at h
  | cons m rest =>
    simp only [validPath, Bool.and_eq_true, decide_eq_true_eq] at h
    intro x hx
    cases hx with
    | head => rw [h.1]; exact Reach.init
    | tail _ hx => exact reach_of_validPathFrom sys m rest (h.1 ▸ Reach.init) h.2 x hx

/-- a violation witness in one evaluation: the history `findPath` proposes is valid and ends where `good` fails -/
theorem violation_of_findPath (sys : Sys F) (good : MC F → Bool) (fuel : Nat)
    (h : (validPath sys (findPath sys (fun m => !good m) fuel) &&
      (findPath sys (fun m => !good m) fuel).getLast?.any fun m => !good m) = true) :
    ∃ m, Reach sys m ∧ good m = false := by
  rw [Bool.and_eq_true, Option.any_eq_true] at h
  obtain ⟨hv, m, hl, hb⟩ := h
  exact ⟨m, reach_of_validPath sys _ hv m (List.mem_of_getLast? hl), by simpa using hb⟩

end PsVerif.Model.Abs
