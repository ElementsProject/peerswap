import PsVerif.Model.PolicyFile
/- string-level lemmas for the policy-file model: trimming, the lines the operations write, and
   `sameOption` agreeing with the reader's `classify` -/
namespace PsVerif.Proofs.PolicyLemmas
open PsVerif.Model.PolicyFile

theorem dropWhile_snoc (p : Char → Bool) (xs : List Char) (c : Char) (h : p c = false) :
    (xs ++ [c]).dropWhile p = xs.dropWhile p ++ [c] := by
  induction xs with
  | nil => simp [List.dropWhile, h]
  | cons x xs ih =>
    simp only [List.cons_append, List.dropWhile_cons]
    split
    · exact ih
    · rfl

theorem trim_cons (c : Char) (cs : Str) (h : isSpace c = false) : ∃ t, trim (c :: cs) = c :: t := by
  refine ⟨((cs.reverse.dropWhile isSpace)).reverse, ?_⟩
  rw [trim, trimR, List.reverse_cons, dropWhile_snoc _ _ _ h, List.reverse_append]
  simp [trimL, h]

theorem trimR_snoc_space (l : Str) (c : Char) (h : isSpace c = true) : trimR (l ++ [c]) = trimR l := by
  simp [trimR, h]

theorem trim_head_nonspace (l : Str) (c : Char) (cs : Str) (h : trim l = c :: cs) : isSpace c = false := by
  have := List.head?_dropWhile_not isSpace (trimR l)
  rw [← trimL, ← trim, h] at this
  simpa using this

theorem trim_of_no_space (l : Str) (h : ∀ c ∈ l, isSpace c = false) : trim l = l := by
  have key : ∀ m : Str, (∀ c ∈ m, isSpace c = false) → m.dropWhile isSpace = m := by
    intro m hm
    cases m with
    | nil => rfl
    | cons c cs => simp [hm c]
  rw [trim, trimR, key _ (by simpa using h), List.reverse_reverse, trimL, key _ h]

/-- the values the operations write (pubkeys, `true`/`false`): no white space, no opening quote -/
def Clean (v : Str) : Prop := (∀ c ∈ v, isSpace c = false) ∧ v.head? ≠ some '"'

theorem clean_unquote (v : Str) (h : Clean v) : unquote v = some v := by
  unfold unquote
  split
  · exact absurd rfl h.2
  · rfl

theorem hex_facts (c : Char) (h : isHexLower c = true) : isSpace c = false ∧ c ≠ '"' := by
  have h48 : 48 ≤ c.toNat := by
    simp only [isHexLower, Bool.or_eq_true, decide_eq_true_eq] at h
    rcases h with h | h
    · exact h.1
    · exact Nat.le_trans (by decide : 48 ≤ 'a'.toNat) h.1
  -- white space and the quote lie below '0'
  have e : ∀ d : Char, d.toNat < 48 → c ≠ d := by intro d hd hcd; subst hcd; omega
  refine ⟨?_, e '"' (by decide)⟩
  simp [isSpace, e ' ' (by decide), e '\t' (by decide), e '\r' (by decide), e '\n' (by decide)]
  omega

theorem clean_of_valid (pk : Str) (h : validPubkey pk = true) : Clean pk := by
  simp only [validPubkey, Bool.and_eq_true, List.all_eq_true] at h
  refine ⟨fun c hc => (hex_facts c (h.2 c hc)).1, ?_⟩
  intro hq
  exact (hex_facts '"' (h.2 _ (List.mem_of_head? hq))).2 rfl

theorem clean_bool (b : Bool) : Clean (boolStr b) := by
  cases b <;> exact ⟨by decide, by decide⟩

/-- the three keys the operations write -/
def OpKey (k : Str) : Prop := k = kAllow ∨ k = kSusp ∨ k = kNew

theorem opkey_facts (k : Str) (hk : OpKey k) :
    (∀ c ∈ k, isSpace c = false ∧ c ≠ '=') ∧ ∃ c cs, k = c :: cs ∧ c ≠ ';' ∧ c ≠ '#' ∧ c ≠ '[' := by
  rcases hk with rfl | rfl | rfl <;> exact ⟨by decide, _, _, rfl, by decide, by decide, by decide⟩

theorem splitEq_append (k v : Str) (h : '=' ∉ k) : splitEq (k ++ '=' :: v) = some (k, v) := by
  induction k with
  | nil => simp [splitEq]
  | cons c cs ih =>
    have hc : c ≠ '=' := fun e => h (e ▸ List.mem_cons_self)
    simp [splitEq, hc, ih fun hm => h (List.mem_cons_of_mem _ hm)]

theorem splitEq_cons_some (c : Char) (cs k v : Str) (h : splitEq (c :: cs) = some (k, v)) :
    k = [] ∨ ∃ k', k = c :: k' := by
  unfold splitEq at h
  split at h
  · simp at h; exact .inl h.1
  · cases hs : splitEq cs with
    | none => simp [hs] at h
    | some kv => simp [hs] at h; exact .inr ⟨kv.1, h.1.symm⟩

theorem classify_of_key (l k v : Str) (c : Char) (cs : Str) (hs : splitEq (trim l) = some (k, v))
    (hk : trim k = c :: cs) (h1 : c ≠ ';') (h2 : c ≠ '#') (h3 : c ≠ '[') :
    classify l = classifyKV (trim l) := by
  unfold classify
  cases ht : trim l with
  | nil => rw [ht] at hs; cases hs
  | cons d ds =>
    rw [ht] at hs
    -- the key starts with the line's first character, which the trimming of the line left non-blank
    rcases splitEq_cons_some d ds k v hs with rfl | ⟨k', rfl⟩
    · cases hk
    · obtain ⟨t, hd⟩ := trim_cons d k' (trim_head_nonspace l d ds ht)
      rw [hd] at hk
      injection hk with hdc _
      subst hdc
      simp [classifyT, h1, h2, h3]

theorem classifyT_kv (t k v : Str) (h : classifyT t = some (.kv k v)) : classifyKV t = some (.kv k v) := by
  cases t with
  | nil => cases h
  | cons c cs =>
    rw [classifyT] at h
    by_cases h1 : c = ';' ∨ c = '#'
    · rw [if_pos h1] at h; cases h
    · rw [if_neg h1] at h
      by_cases h2 : c = '['
      · rw [if_pos h2] at h
        split at h
        · cases h
        · split at h <;> cases h
      · rw [if_neg h2] at h; exact h

theorem classifyKV_some (t : Str) (a : Act) (h : classifyKV t = some a) :
    ∃ k v w, splitEq t = some (k, v) ∧ unquote (trim v) = some w ∧ a = .kv (trim k) w := by
  unfold classifyKV at h
  cases hs : splitEq t with
  | none => rw [hs] at h; cases h
  | some kv =>
    rw [hs] at h
    obtain ⟨w, hw, rfl⟩ := Option.map_eq_some_iff.mp h
    exact ⟨_, _, w, rfl, hw, rfl⟩

theorem sameOption_iff (l k v : Str) : sameOption l k v = true ↔
    l = k ++ '=' :: v ∨
    ∃ k' v', splitEq (trim l) = some (k', v') ∧ trim k' = k ∧ (unquote (trim v')).getD (trim v') = v := by
  unfold sameOption
  rcases splitEq (trim l) with _ | ⟨k', v'⟩ <;> simp [and_assoc]

/-- the line an operation writes is read back as exactly that option -/
theorem classify_canon (k v : Str) (hk : OpKey k) (hv : Clean v) :
    classify (k ++ '=' :: v) = some (.kv k v) := by
  obtain ⟨hks, c, cs, hkc, h1, h2, h3⟩ := opkey_facts k hk
  have hkt : trim k = k := trim_of_no_space k fun c hc => (hks c hc).1
  have hline : trim (k ++ '=' :: v) = k ++ '=' :: v := by
    apply trim_of_no_space
    intro d hd
    rcases List.mem_append.mp hd with h | h
    · exact (hks d h).1
    · rcases List.mem_cons.mp h with rfl | h
      · decide
      · exact hv.1 d h
  have hs : splitEq (trim (k ++ '=' :: v)) = some (k, v) := by
    rw [hline]
    exact splitEq_append k v fun h => (hks _ h).2 rfl
  rw [classify_of_key _ k v c cs hs (hkt.trans hkc) h1 h2 h3, classifyKV, hs]
  simp [hkt, trim_of_no_space v hv.1, clean_unquote v hv]

/-- on a line the reader accepts, `sameOption` says exactly that the reader sees this option -/
theorem sameOption_classify (l k v : Str) (a : Act) (hk : OpKey k) (hv : Clean v)
    (hc : classify l = some a) : sameOption l k v = true ↔ a = .kv k v := by
  obtain ⟨hks, c, cs, hkc, h1, h2, h3⟩ := opkey_facts k hk
  rw [sameOption_iff]
  constructor
  · rintro (rfl | ⟨k', v', hs, hk', hv'⟩)
    · rw [classify_canon k v hk hv] at hc
      exact (Option.some.inj hc).symm
    · rw [classify_of_key l k' v' c cs hs (hk'.trans hkc) h1 h2 h3] at hc
      obtain ⟨k₁, v₁, w, hs₁, hu, rfl⟩ := classifyKV_some _ _ hc
      cases hs.symm.trans hs₁
      rw [hu] at hv'
      rw [hk', ← hv']
      rfl
  · rintro rfl
    obtain ⟨k', v', w, hs, hu, he⟩ := classifyKV_some _ _ (classifyT_kv _ _ _ hc)
    injection he with hk' hw
    exact .inr ⟨k', v', hs, hk'.symm, by rw [hu, hw]; rfl⟩

theorem classify_stripCR (l : Str) : classify (stripCR l) = classify l := by
  unfold stripCR
  split
  · rename_i h
    have hne : l ≠ [] := by intro h0; subst h0; simp at h
    have hl : l.getLast hne = '\r' := by
      rw [List.getLast?_eq_some_getLast hne] at h
      exact Option.some.inj h
    have : l.dropLast ++ ['\r'] = l := by rw [← hl]; exact List.dropLast_concat_getLast hne
    unfold classify trim
    conv => rhs; rw [← this, trimR_snoc_space _ _ (by decide)]
  · rfl

end PsVerif.Proofs.PolicyLemmas
