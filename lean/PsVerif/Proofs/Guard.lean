/- The Go functions modelled here are cascades of guards, `if c₁ then r₁ else if c₂ then r₂ else … r`: one that
   returned `x` got past every guard whose own result is not `x`. -/
namespace PsVerif

theorem guard_passed {α : Sort _} {c : Prop} [Decidable c] {a b x : α}
    (h : (if c then a else b) = x) (hne : a ≠ x) : ¬c ∧ b = x := by
  by_cases hc : c
  · rw [if_pos hc] at h; exact absurd h hne
  · rw [if_neg hc] at h; exact ⟨hc, h⟩

end PsVerif
