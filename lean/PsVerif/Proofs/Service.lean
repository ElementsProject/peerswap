import PsVerif.Model.Service
/-
What `lockSwap` grants and what one registry operation can do (Model/Service.lean): the case analyses that
C09 and C10 share.  Invariants of operation sequences then go through `List.foldlRecOn`.
-/
namespace PsVerif.Model.Service
open PsVerif.Model

theorem any_beq_eq_false {α β : Type} [BEq β] [LawfulBEq β] {l : List α} {f : α → β} {b : β} :
    l.any (fun a => f a == b) = false ↔ ∀ a ∈ l, f a ≠ b := by
  simp

theorem known_eq_false {r : Reg} {id : String} :
    known r id = false ↔ (∀ a ∈ r.active, a.id ≠ id) ∧ id ∉ r.stored := by
  simp [known]

theorem lockSwap_eq_ok {r r' : Reg} {e : Entry} :
    lockSwap r e = .ok r' ↔
      (∀ a ∈ r.active, a.id ≠ e.id) ∧ (∀ a ∈ r.active, clnStyle a.scid ≠ clnStyle e.scid) ∧
        r' = ⟨e :: r.active, r.stored⟩ := by
  -- the two conditions are the negations of the two tests of `lockSwap`; then a truth table
  rw [← any_beq_eq_false, ← any_beq_eq_false, lockSwap]
  cases r.active.any (fun a => a.id == e.id) <;>
    cases r.active.any (fun a => clnStyle a.scid == clnStyle e.scid) <;> simp [eq_comm]

theorem apply_cases (r : Reg) (op : Op) :
    apply r op = r ∨ (∃ id, apply r op = removeActive r id) ∨
    ∃ e r', lockSwap r e = .ok r' ∧ (apply r op = r' ∨ apply r op = { r' with stored := e.id :: r'.stored }) := by
  cases op with
  | remove id => exact .inr (.inl ⟨id, rfl⟩)
  | lock e =>
    simp only [apply]
    cases hl : lockSwap r e with
    | error _ => exact .inl rfl
    | ok r' => exact .inr (.inr ⟨e, r', hl, .inl rfl⟩)
  | request e =>
    simp only [apply, onRequest]
    split
    · exact .inl rfl
    · cases hl : lockSwap r e with
      | error _ => exact .inl rfl
      | ok r' => exact .inr (.inr ⟨e, r', hl, .inr rfl⟩)
  | commit e =>
    simp only [apply, commitRequest]
    cases hl : lockSwap r e with
    | error err => cases err <;> exact .inl rfl
    | ok r' =>
      dsimp only
      split
      · exact .inl rfl
      · exact .inr (.inr ⟨e, r', hl, .inr rfl⟩)

end PsVerif.Model.Service
