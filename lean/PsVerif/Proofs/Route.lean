import PsVerif.Model.Route
import PsVerif.Proofs.Timelock
/- What the two route builders of Model/Route.lean return when they return a payment. -/
namespace PsVerif.Model
open PsVerif

theorem clnDelay_eq (cltv : Int) (lo : 0 ≤ cltv) (hi : cltv.toNat < 4294967295) :
    clnDelay cltv = (cltv + 1).toNat := by
  unfold clnDelay
  rw [wrapU32i_eq _ (by omega) (by omega)]

theorem clnRoute_ok {payee : String} {amt : Nat} {cltv : Int} {scid : String} {limit : Nat} {r : List ClnHop}
    (h : clnRoute payee amt cltv scid limit = .ok r) :
    r = [⟨payee, clnStyle scid, amt, clnDelay cltv, 0⟩] ∧
      (limit ≠ 0 → 0 ≤ cltv ∧ cltv.toNat < 4294967295 ∧ clnDelay cltv ≤ limit) := by
  unfold clnRoute at h
  by_cases hl : limit ≠ 0
  · rw [if_pos hl] at h
    obtain ⟨h1, h⟩ := guard_passed h nofun
    obtain ⟨h2, h⟩ := guard_passed h nofun
    have := (validateTotalCLTVDelta_ok _ _).mp (Decidable.not_not.mp h2)
    exact ⟨(Except.ok.inj h).symm, fun _ => ⟨by omega, by omega, by omega⟩⟩
  · rw [if_neg hl] at h
    exact ⟨(Except.ok.inj h).symm, fun hl' => absurd hl' hl⟩

theorem lndRequest_ok {payreq dest remote : String} {chanId : Nat} {cltv : Int} {pad limit : Nat} {q : LndReq}
    (h : lndRequest payreq dest remote chanId cltv pad limit = .ok q) :
    dest = remote ∧ q = ⟨payreq, 30, q.cltvLimit, [chanId], 1, 0, 0⟩ ∧
      (limit ≠ 0 → 0 ≤ cltv ∧ cltv.toNat + pad ≤ limit ∧ limit < 2147483647 ∧ q.cltvLimit = Int.ofNat (limit + 1)) := by
  unfold lndRequest at h
  obtain ⟨hd, h⟩ := guard_passed h nofun
  refine ⟨Decidable.not_not.mp hd, ?_⟩
  by_cases hl : limit ≠ 0
  · rw [if_pos hl] at h
    obtain ⟨h1, h⟩ := guard_passed h nofun
    obtain ⟨h2, h⟩ := guard_passed h nofun
    obtain ⟨h3, h⟩ := guard_passed h nofun
    obtain ⟨h4, h⟩ := guard_passed h nofun
    have := (validateTotalCLTVDelta_ok _ _).mp (Decidable.not_not.mp h3)
    cases Except.ok.inj h
    exact ⟨rfl, fun _ => ⟨by omega, by omega, by omega, rfl⟩⟩
  · rw [if_neg hl] at h
    cases Except.ok.inj h
    exact ⟨rfl, fun hl' => absurd hl' hl⟩

end PsVerif.Model
