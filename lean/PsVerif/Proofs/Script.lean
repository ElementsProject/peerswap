import PsVerif.Model.Script
/- What the definitions of Model/Script.lean compute: the interpreter on a program given instruction by
   instruction or block by block, single-byte script numbers, BIP112 for an operand that is a bare block count. -/
namespace PsVerif.Model.Script

theorem run_cons (c : Crypto) (tx : TxCtx) (i : Instr) (rest : List Instr) (st : List Bytes) :
    run c tx (i :: rest) st = (step c tx i st).bind (run c tx rest) := by
  rw [run]
  cases step c tx i st <;> rfl

theorem run_append (c : Crypto) (tx : TxCtx) (a b : List Instr) (st : List Bytes) :
    run c tx (a ++ b) st = (run c tx a st).bind (run c tx b) := by
  induction a generalizing st with
  | nil => rfl
  | cons i a ih =>
    rw [List.cons_append, run_cons, run_cons]
    cases step c tx i st with
    | none => rfl
    | some st' => exact ih st'

theorem scriptNumBytes_eq_nil (fuel n : Nat) : scriptNumBytes (fuel + 1) n = [] ↔ n = 0 := by
  rw [scriptNumBytes]
  by_cases h : n = 0
  · simp only [h, if_true]
  · simp only [h, if_false, iff_false]
    repeat' split
    all_goals exact List.cons_ne_nil _ _

theorem scriptNum_eq_singleton {b : Nat} (h0 : b ≠ 0) (h128 : b < 128) (n : Nat) : scriptNum n = [b] ↔ n = b := by
  rw [scriptNum, scriptNumBytes]
  -- the encoder's four cases: `[]`, `[n]`, `[n, 0]`, and `n % 256` followed by the bytes of `n / 256 ≠ 0`
  repeat' split
  all_goals simp [scriptNumBytes_eq_nil]
  all_goals omega

/-- below 2^16 the disable flag (bit 31) and the type flag (bit 22) of a CHECKSEQUENCEVERIFY operand or a sequence
    are clear, and the masked value is the number itself -/
theorem flags_of_lt {n : Nat} (h : n < 65536) : n / 2147483648 % 2 = 0 ∧ n / 4194304 % 2 = 0 ∧ n % 65536 = n :=
  ⟨by rw [Nat.div_eq_of_lt (by omega)], by rw [Nat.div_eq_of_lt (by omega)], Nat.mod_eq_of_lt h⟩

theorem csvOk_iff (tx : TxCtx) {n : Nat} (hn : n < 65536) :
    csvOk tx n = true ↔
      2 ≤ tx.version ∧ tx.sequence / 2147483648 % 2 = 0 ∧ tx.sequence / 4194304 % 2 = 0 ∧ n ≤ tx.sequence % 65536 := by
  obtain ⟨h31, h22, hm⟩ := flags_of_lt hn
  rw [csvOk, h31, h22, hm, if_neg (by decide)]
  simp only [Bool.and_eq_true, decide_eq_true_eq, ge_iff_le, and_assoc, eq_comm (a := 0)]

end PsVerif.Model.Script
