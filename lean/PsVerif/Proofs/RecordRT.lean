import PsVerif.Model.Record
/- the record codec round trip: hex / base64 inverses, per-struct key lookup, and the mutual theorem `rt` -/
namespace PsVerif.Proofs.RecordRT
open PsVerif.Model.Record

theorem hexVal_digit : ∀ n < 16, hexVal (hexDigit n) = some n := by decide
theorem b64Val_char : ∀ n < 64, b64Val (b64Char n) = some n ∧ b64Char n ≠ '=' := by decide

theorem isByte_cons (a : Nat) (r : List Nat) : isByte (a :: r) = true ↔ a < 256 ∧ isByte r = true := by
  simp [isByte]

theorem hex_rt : ∀ bs : List Nat, isByte bs = true → hexDec (hexEnc bs) = some bs
  | [], _ => rfl
  | b :: r, h => by
    obtain ⟨hb, hr⟩ := (isByte_cons b r).mp h
    rw [show hexEnc (b :: r) = hexDigit (b / 16) :: hexDigit (b % 16) :: hexEnc r from rfl, hexDec,
      hexVal_digit _ (by omega), hexVal_digit _ (by omega), hex_rt r hr]
    simp only [Nat.div_add_mod']

/-- how a sextet made of parts of two bytes gives them back -/
theorem div_mod_of_digits {x y m : Nat} (h : y < m) : (x * m + y) / m = x ∧ (x * m + y) % m = y := by
  rw [Nat.mul_comm, Nat.mul_add_div (by omega), Nat.mul_add_mod, Nat.div_eq_of_lt h, Nat.mod_eq_of_lt h]
  exact ⟨rfl, rfl⟩

/-- what `b64Dec` returns on a full group, and on the two padded final groups, when the characters decode -/
theorem b64Dec_quad {w x y z : Char} {rest : List Char} {p q r s : Nat} {t : List Nat}
    (hw : b64Val w = some p) (hx : b64Val x = some q) (hy : b64Val y = some r) (hz : b64Val z = some s)
    (hne : z ≠ '=') (ht : b64Dec rest = some t) :
    b64Dec (w :: x :: y :: z :: rest) = some ((p * 4 + q / 16) :: (q % 16 * 16 + r / 4) :: (r % 4 * 64 + s) :: t) := by
  rw [b64Dec, if_neg hne, hw, hx, hy, hz, ht]

theorem b64Dec_pad1 {w x y : Char} {p q r : Nat} (hw : b64Val w = some p) (hx : b64Val x = some q)
    (hy : b64Val y = some r) (hne : y ≠ '=') (hr : r % 4 = 0) :
    b64Dec [w, x, y, '='] = some [p * 4 + q / 16, q % 16 * 16 + r / 4] := by
  rw [b64Dec, if_pos rfl, if_neg hne, hw, hx, hy]
  exact if_pos hr

theorem b64Dec_pad2 {w x : Char} {p q : Nat} (hw : b64Val w = some p) (hx : b64Val x = some q) (hq : q % 16 = 0) :
    b64Dec [w, x, '=', '='] = some [p * 4 + q / 16] := by
  rw [b64Dec, if_pos rfl, if_pos rfl, hw, hx]
  exact if_pos hq

theorem b64_rt : ∀ bs : List Nat, isByte bs = true → b64Dec (b64Enc bs) = some bs
  | [], _ => rfl
  | [a], h => by
    have ha : a < 256 := by simpa [isByte] using h
    have hp := b64Val_char (a / 4) (by omega)
    have hq := b64Val_char (a % 4 * 16) (by omega)
    rw [b64Enc, b64Dec_pad2 hp.1 hq.1 (Nat.mul_mod_left _ _), Nat.mul_div_cancel _ (by decide), Nat.div_add_mod']
  | [a, b], h => by
    have ⟨ha, hb⟩ : a < 256 ∧ b < 256 := by simpa [isByte] using h
    have hp := b64Val_char (a / 4) (by omega)
    have hq := b64Val_char (a % 4 * 16 + b / 16) (by omega)
    have hr := b64Val_char (b % 16 * 4) (by omega)
    have ⟨q1, q2⟩ := div_mod_of_digits (x := a % 4) (show b / 16 < 16 by omega)
    rw [b64Enc, b64Dec_pad1 hp.1 hq.1 hr.1 hr.2 (Nat.mul_mod_left _ _), q1, q2, Nat.mul_div_cancel _ (by decide),
      Nat.div_add_mod', Nat.div_add_mod']
  | a :: b :: c :: l, h => by
    have ⟨ha, hb, hc, hl⟩ : a < 256 ∧ b < 256 ∧ c < 256 ∧ isByte l = true := by
      simpa [isByte_cons, and_assoc] using h
    have hp := b64Val_char (a / 4) (by omega)
    have hq := b64Val_char (a % 4 * 16 + b / 16) (by omega)
    have hr := b64Val_char (b % 16 * 4 + c / 64) (by omega)
    have hs := b64Val_char (c % 64) (by omega)
    have ⟨q1, q2⟩ := div_mod_of_digits (x := a % 4) (show b / 16 < 16 by omega)
    have ⟨r1, r2⟩ := div_mod_of_digits (x := b % 16) (show c / 64 < 4 by omega)
    rw [b64Enc, b64Dec_quad hp.1 hq.1 hr.1 hs.1 hs.2 (b64_rt l hl), q1, q2, r1, r2,
      Nat.div_add_mod', Nat.div_add_mod', Nat.div_add_mod']

/-- every field of the struct value round-trips on its own -/
def AllRT : TF → VF → Prop
  | .nil, .nil => True
  | .cons _ _ ty rest, .cons v vs => dec ty (enc ty v) = some v ∧ AllRT rest vs
  | _, _ => False

/-- what `wt ty v = true` says about `v`, kind by kind -/
theorem wt_inv {ty : Ty} {v : V} (h : wt ty v = true) :
    match ty with
    | .str => ∃ s, v = .str s
    | .uint b => ∃ i, v = .num i ∧ inRange (.uint b) i = true
    | .int b => ∃ i, v = .num i ∧ inRange (.int b) i = true
    | .bool => ∃ b, v = .bool b
    | .bytes => v = .bytes none ∨ ∃ b, v = .bytes (some b) ∧ isByte b = true
    | .id => v = .id none ∨ ∃ b, v = .id (some b) ∧ isByte b = true ∧ b.length = 32
    | .iface => v = .nilIface
    | .ptr tf => v = .nilPtr ∨ ∃ vf, v = .ptr vf ∧ wtF tf vf = true := by
  unfold wt at h
  split at h <;> simp at h ⊢ <;> exact h

theorem wtF_cons {k : String} {om : Bool} {ty : Ty} {rest : TF} {v : V} {vs : VF} :
    wtF (.cons k om ty rest) (.cons v vs) = true ↔ wt ty v = true ∧ wtF rest vs = true := by
  simp [wtF]

theorem okTF_cons {k : String} {om : Bool} {ty : Ty} {rest : TF} :
    okTF (.cons k om ty rest) = true ↔ okTy ty = true ∧ (om = true → omitSafe ty = true) ∧ okTF rest = true := by
  cases om <;> simp [okTF, and_assoc]

theorem lookup_enc_absent : ∀ (tf : TF) (vf : VF) (k : String), k ∉ tf.keys → lookupJ (encF tf vf) k = none
  | .nil, _, _, _ => by simp [encF, lookupJ]
  | .cons _ _ _ _, .nil, _, _ => by simp [encF, lookupJ]
  | .cons k0 om ty rest, .cons v vs, k, h => by
    have ⟨h1, h2⟩ : k0 ≠ k ∧ k ∉ rest.keys := by simpa [TF.keys, eq_comm] using h
    unfold encF
    split
    · exact lookup_enc_absent rest vs k h2
    · simp only [lookupJ, h1, if_false]
      exact lookup_enc_absent rest vs k h2

theorem decF_cons_absent (k : String) (j : J) (jf : JF) : ∀ tf : TF, k ∉ tf.keys → decF tf (.cons k j jf) = decF tf jf
  | .nil, _ => by simp [decF]
  | .cons k0 om ty rest, h => by
    have ⟨h1, h2⟩ : k ≠ k0 ∧ k ∉ rest.keys := by simpa [TF.keys] using h
    unfold decF
    simp only [lookupJ, h1, if_false, decF_cons_absent k j jf rest h2]

theorem empty_is_zero : ∀ (ty : Ty) (v : V), wt ty v = true → omitSafe ty = true → isEmpty v = true → v = zero ty
  | .str, _, hw, _, h => by obtain ⟨s, rfl⟩ := wt_inv hw; simpa [isEmpty, zero] using h
  | .uint _, _, hw, _, h | .int _, _, hw, _, h => by obtain ⟨i, rfl, -⟩ := wt_inv hw; simpa [isEmpty, zero] using h
  | .bool, _, hw, _, h => by obtain ⟨b, rfl⟩ := wt_inv hw; simpa [isEmpty, zero] using h
  | .bytes, _, _, hs, _ => by cases hs
  | .id, _, hw, _, h => by
    obtain rfl | ⟨b, rfl, -⟩ := wt_inv hw
    · rfl
    · cases h
  | .iface, _, hw, _, _ => wt_inv hw
  | .ptr _, _, hw, _, h => by
    obtain rfl | ⟨vf, rfl, -⟩ := wt_inv hw
    · rfl
    · cases h

theorem decF_encF : ∀ (tf : TF) (vf : VF), tf.keys.Nodup → wtF tf vf = true → okTF tf = true → AllRT tf vf →
    decF tf (encF tf vf) = some vf
  | .nil, .nil, _, _, _, _ => by simp [decF]
  | .nil, .cons _ _, _, _, _, h => h.elim
  | .cons _ _ _ _, .nil, _, _, _, h => h.elim
  | .cons k om ty rest, .cons v vs, hn, hw, ho, hr => by
    have ⟨hk, hn'⟩ := List.nodup_cons.mp hn
    have ⟨hw1, hw2⟩ := wtF_cons.mp hw
    have ⟨_, hs, ho2⟩ := okTF_cons.mp ho
    have ih := decF_encF rest vs hn' hw2 ho2 hr.2
    unfold encF
    split
    next c =>
      -- the field was left out: the lookup fails, and the zero value it leaves is the value
      simp only [Bool.and_eq_true] at c
      unfold decF
      rw [lookup_enc_absent rest vs k hk, ih, ← empty_is_zero ty v hw1 (hs c.1) c.2]
    next =>
      -- the field comes first in the object; the fields after it do not see it
      unfold decF
      simp only [lookupJ, if_true, hr.1, decF_cons_absent k _ _ rest hk, ih]

mutual
/-- **round trip of one value** -/
theorem rt : ∀ (ty : Ty) (v : V), wt ty v = true → okTy ty = true → dec ty (enc ty v) = some v
  | .str, _, hw, _ => by obtain ⟨s, rfl⟩ := wt_inv hw; rfl
  | .uint _, _, hw, _ | .int _, _, hw, _ => by obtain ⟨i, rfl, hi⟩ := wt_inv hw; simp [enc, dec, hi]
  | .bool, _, hw, _ => by obtain ⟨b, rfl⟩ := wt_inv hw; rfl
  | .bytes, _, hw, _ => by
    obtain rfl | ⟨b, rfl, hb⟩ := wt_inv hw
    · rfl
    · simp [enc, dec, b64_rt b hb]
  | .id, _, hw, _ => by
    obtain rfl | ⟨b, rfl, hb, hl⟩ := wt_inv hw
    · rfl
    · simp [enc, dec, hex_rt b hb, hl]
  | .iface, _, hw, _ => by cases wt_inv hw; rfl
  | .ptr tf, _, hw, ho => by
    obtain rfl | ⟨vf, rfl, hw'⟩ := wt_inv hw
    · rfl
    · have ⟨ho', hn⟩ : okTF tf = true ∧ tf.keys.Nodup := by simpa [okTy] using ho
      simp [enc, dec, decF_encF tf vf hn hw' ho' (rtF tf vf hw' ho')]
theorem rtF : ∀ (tf : TF) (vf : VF), wtF tf vf = true → okTF tf = true → AllRT tf vf
  | .nil, .nil, _, _ => trivial
  | .nil, .cons _ _, h, _ => by cases h
  | .cons _ _ _ _, .nil, h, _ => by cases h
  | .cons _ om ty rest, .cons v vs, hw, ho =>
    have ⟨hw1, hw2⟩ := wtF_cons.mp hw
    have ⟨ho1, _, ho2⟩ := okTF_cons.mp ho
    ⟨rt ty v hw1 ho1, rtF rest vs hw2 ho2⟩
end

end PsVerif.Proofs.RecordRT
