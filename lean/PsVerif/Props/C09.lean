import PsVerif.Proofs.Service
import PsVerif.Model.Abs
/-
C09  A swap is affected only by its own counterparty; swap ids cannot be reused.

Model: Model/Service.lean (routing by id and sender, known-id check, lockSwap) and the engine's `extStep`
(Model/Abs.lean: a message event is looked up in the GENERATED table before its context is applied).
Tie: slice `registry`, the trace-inclusion slices (the real machines no longer write a record for a
rejected message), and the monitor (record bytes before/after).
-/
namespace PsVerif.Props.C09
open PsVerif.Gen PsVerif.Model PsVerif.Model.Service PsVerif.Model.Abs

/-- a message for an unknown (not active) swap id reaches no swap -/
theorem C09_unknown_id (r : Reg) (id sender : String) (h : ∀ a ∈ r.active, a.id ≠ id) :
    routeMsg r id sender = .unknownSwap := by
  have : r.active.find? (fun a => a.id == id) = none :=
    List.find?_eq_none.mpr fun a ha => by simpa using h a ha
  simp [routeMsg, this]

/-- a message with a live swap's id from anyone but that swap's peer reaches no swap -/
theorem C09_foreign_sender (r : Reg) (id sender : String) (e : Entry)
    (h : routeMsg r id sender = .toSwap e) : e.id = id ∧ e.peer = sender ∧ e ∈ r.active := by
  unfold routeMsg at h
  split at h
  · cases h
  · next e' he =>
    split at h
    · next hp =>
      cases h
      exact ⟨by simpa using List.find?_some he, by simpa using hp, List.mem_of_find?_eq_some he⟩
    · cases h

/-- a message event that the swap's current state does not accept changes nothing: no successor
    configuration, no store write — for every abstraction, every configuration -/
theorem C09_unacceptable_message_noop {F : Type} (sys : Sys F) (m : MC F) (e : Ev) (hc : hasCtx e = true)
    (hn : nextSt sys.table m.st e = none) : extStep sys m e = [] := by
  simp [extStep, hc, hn]

/-- the seven swap message kinds are message events -/
theorem C09_message_events :
    [E_OnCancelReceived, E_OnCoopCloseReceived, E_OnFeeInvoiceReceived, E_OnTxOpenedMessage,
     E_SwapInSender_OnAgreementReceived, E_OnSwapOutRequestReceived, E_SwapInReceiver_OnRequestReceived].all hasCtx = true := by
  decide

/-- a request that reuses a known id (active, finished, or stored and not yet recovered) is refused and
    the registry — hence the existing record, keys and progress — is unchanged -/
theorem C09_id_reuse_refused (r : Reg) (e : Entry) (h : known r e.id = true) :
    onRequest r e = (r, .refusedKnownId) := by
  simp [onRequest, h]

/-- lockSwap itself never replaces an entry: a second state machine for an active id is refused -/
theorem C09_lock_refuses_active_id (r : Reg) (e a : Entry) (ha : a ∈ r.active) (hid : a.id = e.id) :
    lockSwap r e = .error .idInUse :=
  if_pos (List.any_eq_true.mpr ⟨a, ha, by simp [hid]⟩)

/-- an accepted request is stored, so its id is known from then on -/
theorem C09_accepted_becomes_known (r : Reg) (e : Entry) (r' : Reg) (h : onRequest r e = (r', .accepted)) :
    known r' e.id = true := by
  unfold onRequest at h
  split at h
  · cases h
  · cases hl : lockSwap r e with
    | error _ => simp [hl] at h
    | ok r2 =>
      simp only [hl] at h
      cases h
      simp [known]

/-- the second half of a request handler registers a swap only for an id that is, AT THAT MOMENT, neither active nor
    stored — whatever happened since its id test: a request that was in flight while a swap with the same id was
    created and finished cannot take the id over (fix e55bb17) -/
theorem C09_commit_only_unknown (r : Reg) (e : Entry) (r' : Reg) (h : commitRequest r e = (r', .accepted)) :
    known r e.id = false := by
  unfold commitRequest at h
  cases hl : lockSwap r e with
  | error err => cases err <;> simp [hl] at h
  | ok r2 =>
    simp only [hl] at h
    split at h
    · cases h
    · next hs => exact known_eq_false.mpr ⟨(lockSwap_eq_ok.mp hl).1, by simpa using hs⟩

theorem stored_subset_apply (r : Reg) (op : Op) : r.stored ⊆ (apply r op).stored := by
  rcases apply_cases r op with h | ⟨id, h⟩ | ⟨e, r', hl, h⟩
  · rw [h]; exact List.Subset.refl _
  · rw [h]; exact List.Subset.refl _
  · obtain ⟨-, -, rfl⟩ := lockSwap_eq_ok.mp hl
    rcases h with h | h <;> rw [h]
    · exact List.Subset.refl _
    · exact List.subset_cons_self _ _

/-- nothing ever removes an id from the store: once a swap was stored its id stays known through every sequence of
    local initiations, requests (in both halves), recoveries and removals -/
theorem C09_stored_forever (ops : List Op) (r : Reg) (id : String) (h : id ∈ r.stored) :
    id ∈ (ops.foldl apply r).stored :=
  List.foldlRecOn (motive := fun r => id ∈ r.stored) ops apply h fun r hr op _ => stored_subset_apply r op hr

/-- so: after a swap with id X was stored, no request with id X is ever registered again, in whichever order the two
    halves of the handlers and everything else interleave -/
theorem C09_no_takeover (ops : List Op) (r : Reg) (e : Entry) (h : e.id ∈ r.stored) :
    (commitRequest (ops.foldl apply r) e).2 ≠ .accepted := by
  intro hacc
  have hk := C09_commit_only_unknown (ops.foldl apply r) e _ (Prod.ext rfl hacc)
  exact (known_eq_false.mp hk).2 (C09_stored_forever ops r e.id h)

/-- the handler before the fix did not have this: a finished swap's id (stored, no longer active) was given away
    (witness: the schedule the monitor replays on the real code) -/
theorem C09_old_commit_takes_over :
    (commitRequestOld ⟨[], ["X"]⟩ ⟨"X", "777x1x0", "peer"⟩).2 = .accepted := by decide

end PsVerif.Props.C09
