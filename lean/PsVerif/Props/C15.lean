import PsVerif.Proofs.MkCert
import PsVerif.Props.C06
/-
C15  Restarts never duplicate an opening transaction, payment or refund.

Model: the abstract engine (crash at every persisted point and inside every action, restart = recovery
as fsm.go does it) over the GENERATED tables; maker flags (Model/AbsMk.lean), taker flags
(Model/AbsC06.lean).  The opening clause is proved at full strength (`C15_one_opening`: crashes between the wallet's broadcast
and the persist, wallet errors after the broadcast) since the repair "do not repeat a failed opening
broadcast on recovery"; the witness of the violation in the code before it is
`Findings.C07.C15_violated_second_opening_before_fix`.  Also proved: the
spend-back transaction is created at most once per record (guarded by the persisted ClaimTxId); a taker
whose claim payment succeeded never starts another one when the preimage is persisted (C06 partial).
The "same parameters when re-sent" and "no payment after cancel" clauses are checked by the monitor on
the real code.
-/
namespace PsVerif.Props.C15
open PsVerif.Gen PsVerif.Model.Abs PsVerif.Model.AbsMk PsVerif.Proofs.MkCert

/-- swap-in initiator: never a second opening transaction, in any history of events, crashes at persisted
    points and restarts -/
theorem C15_partial_one_opening_in : ∀ m, Reach (sysIn benign) m → m.f.openings ≤ 1 :=
  fun m hm => by simpa [oneOpening] using (allProps_in m hm).oneOpening

theorem C15_partial_one_opening_out : ∀ m, Reach (sysOut benign) m → m.f.openings ≤ 1 :=
  fun m hm => by simpa [oneOpening] using (allProps_out m hm).oneOpening

/-! ### the opening clause at full strength (since fix "do not repeat a failed opening broadcast on recovery")

`hostile`: the process can die between the wallet's broadcast and the persist that follows, the wallet
adapter can broadcast and then report an error, GetOutputScript and the policy file can fail. -/

def certInH := reachCert (sysIn hostile) 80
def certOutH := reachCert (sysOut hostile) 80
def openingOk (m : MC F) : Bool := !m.f.unknownAct && oneOpening m

/-- the facts read off the certificates are the witnesses of `C15_one_opening_nonvacuous` -/
theorem certInH_ok : certified (sysIn hostile) 80 openingOk
    (fun c => c.toList.any fun m => m.f.openings == 1 && m.f.openFailed && !m.f.openingRec) = true := by decide +kernel
theorem certOutH_ok : certified (sysOut hostile) 80 openingOk
    (fun c => c.toList.any fun m => m.f.openings == 1 && !m.alive && !m.f.openingRec) = true := by decide +kernel

/-- C15, opening clause, both maker roles: in EVERY history of events, failing local services, wallet
    errors before or after the broadcast, crashes at every persisted point and inside every action
    (between the wallet's broadcast and the persist included) and restarts, at most one opening
    transaction is broadcast for a swap -/
theorem C15_one_opening :
    (∀ m, Reach (sysIn hostile) m → m.f.openings ≤ 1) ∧ (∀ m, Reach (sysOut hostile) m → m.f.openings ≤ 1) := by
  have one (m : MC F) (h : openingOk m = true) : m.f.openings ≤ 1 := by
    simp only [openingOk, oneOpening, Bool.and_eq_true, decide_eq_true_eq] at h
    exact h.2
  exact ⟨fun m hm => one m ((certified_spec certInH_ok).1 m hm), fun m hm => one m ((certified_spec certOutH_ok).1 m hm)⟩

/-- non-vacuity: configurations in which the record shows a failed attempt while an opening transaction is
    on the chain (the adapter failed after its broadcast), and dead processes with an unrecorded opening,
    are reachable in that environment -/
theorem C15_one_opening_nonvacuous :
    (certInH.toList.any fun m => m.f.openings == 1 && m.f.openFailed && !m.f.openingRec) = true ∧
    (certOutH.toList.any fun m => m.f.openings == 1 && !m.alive && !m.f.openingRec) = true :=
  ⟨(certified_spec certInH_ok).2, (certified_spec certOutH_ok).2⟩

/-- the states in which a claim payment can be started are not reachable again once the swap went to a
    cancel / coop-close state: no edge of the generated taker tables leads back (checked over all rows) -/
def cancelStates : List St :=
  [.State_SendCancel, .State_SwapCanceled, .State_SwapOutSender_SendPrivkey, .State_SwapOutSender_SendCoopClose,
   .State_SwapInReceiver_SendPrivkey, .State_SwapInReceiver_SendCoopClose, .State_ClaimedCoop]
def payStates : List St :=
  [.State_SwapOutSender_ValidateTxAndPayClaimInvoice, .State_SwapInReceiver_ValidateTxAndPayClaimInvoice,
   .State_SwapOutSender_PayFeeInvoice]

theorem C15_no_way_back_to_pay :
    ∀ r ∈ [Role.SwapOutSender, Role.SwapInReceiver], ∀ row ∈ table r, cancelStates.contains row.st = true →
      ∀ e ∈ row.evs, cancelStates.contains e.2 = true := by decide

/-- … and none of those states' action chains contains a paying action -/
theorem C15_cancel_states_do_not_pay :
    ∀ r ∈ [Role.SwapOutSender, Role.SwapInReceiver], ∀ row ∈ table r, cancelStates.contains row.st = true →
      (row.acts.contains .ValidateTxAndPayClaimInvoiceAction || row.acts.contains .PayFeeInvoiceAction) = false := by
  decide

end PsVerif.Props.C15
