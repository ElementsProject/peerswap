import PsVerif.Proofs.MkCert
/-
C07  A maker's locked funds are never abandoned.

Model: the abstract engine over the GENERATED tables of both maker roles with the flag summaries of
Model/AbsMk.lean; certificates in Proofs/MkCert.lean.  Full statement (`C07_statement`): for the
unrestricted environment.  FALSE on this tree: a crash between the wallet's broadcast and the persist
that follows leaves a broadcast opening transaction without a record (known finding, Findings/C07.lean).
Proved (`C07_partial_*`): for every history without such a crash.  The Liquid `vout` defect (announced
index always 0) is below this abstraction; it is handled under C08.
-/
namespace PsVerif.Props.C07
open PsVerif.Gen PsVerif.Model.Abs PsVerif.Model.AbsMk PsVerif.Proofs.MkCert

/-- per configuration: a broadcast opening transaction is in the durable record; a finished swap with
    locked funds was paid or spent back; a swap resting in a CSV-waiting state has its CSV watch
    registered (so the refund is triggered when the CSV matures, also after a restart) -/
def holds (m : MC F) : Bool := recorded m && settled m && watched m

def C07_statement : Prop :=
  (∀ m, Reach (sysIn hostile) m → holds m = true) ∧ (∀ m, Reach (sysOut hostile) m → holds m = true)

theorem holds_of_allProps {m : MC F} (h : AllProps m) : holds m = true := by
  simp only [holds, h.recorded, h.settled, h.watched, Bool.and_self]

/-- swap-in initiator (maker) -/
theorem C07_partial_swap_in_sender : ∀ m, Reach (sysIn benign) m → holds m = true :=
  fun m hm => holds_of_allProps (allProps_in m hm)

/-- swap-out responder (maker) -/
theorem C07_partial_swap_out_receiver : ∀ m, Reach (sysOut benign) m → holds m = true :=
  fun m hm => holds_of_allProps (allProps_out m hm)

/-- non-vacuity: configurations with a broadcast opening, with a refund, and finished ones are reachable -/
theorem C07_nonvacuous :
    (certIn.toList.any fun m => m.f.openings == 1 && m.f.spentBack && isFinished m.st) = true ∧
    (certOut.toList.any fun m => m.f.openings == 1 && m.f.invoicePaid && isFinished m.st) = true :=
  ⟨(certified_spec certIn_ok).2, (certified_spec certOut_ok).2⟩

end PsVerif.Props.C07
