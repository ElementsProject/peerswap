import PsVerif.Model.Wire
/-
C21  Wire messages follow the protocol numbering and encoding.

Model: `Gen.msgTypes` / `Gen.msgTypeOf` (GENERATED: the nine constants, and for each swap message struct
the value of its MessageType() method and its hex string as MessageTypeToHexString prints it),
`parseInt16`/`toHex` (strconv), `routeMessage` (guards of OnMessageReceived).
Tie: slice `wire` (type strings and payload sizes through the real functions / the real handler, store
and messenger snapshotted); the JSON round-trip of message contents is covered by slice `msgjson`
(real Marshal/Unmarshal of every message struct) — see the level note for what is proved about it.
-/
namespace PsVerif.Props.C21
open PsVerif.Gen PsVerif.Model

/-- the nine numbers are exactly 42069 + 2k, k = 0..8, in protocol order -/
theorem C21_numbers : msgTypes.map (·.2) = (List.range 9).map (fun k => 42069 + 2 * k) := by decide

theorem C21_all_odd : ∀ p ∈ msgTypes, p.2 % 2 = 1 := by decide

theorem C21_range : ∀ p ∈ msgTypes, 42069 ≤ p.2 ∧ p.2 ≤ 42085 := by decide

theorem C21_pairwise_distinct : (msgTypes.map (·.2)).Nodup := by decide

/-- every swap message struct reports the protocol number of its own kind -/
theorem C21_struct_types : ∀ m ∈ msgTypeOf, (m.1, m.2.1) ∈ msgTypes := by decide +kernel

/-- the hex string a message is sent with parses back to its own number, and is what FormatInt gives -/
theorem C21_hex_roundtrip : ∀ m ∈ msgTypeOf,
    parseInt16 m.2.2 = some (Int.ofNat m.2.1) ∧ toHex (Int.ofNat m.2.1) = m.2.2 ∧
    classifyType m.2.2 = .peerswap m.2.1 := by decide +kernel

/-- a type string is treated as a peerswap message only if it denotes one of the nine numbers -/
theorem C21_only_the_nine (s : String) (t : Nat) (h : classifyType s = .peerswap t) : t ∈ peerswapTypes := by
  unfold classifyType at h
  split at h
  · cases h
  · split at h
    next hv => cases h; exact List.contains_iff_mem.mp hv.2
    next => cases h

/-- oversized payloads, unparsable or foreign type strings and the two poll types never reach decoding:
    the handler returns before touching any swap -/
theorem C21_junk_not_dispatched (len : Nat) (s : String) (t : Nat) (h : routeMessage len s = .decode t) :
    len ≤ maxPayload ∧ classifyType s = .peerswap t ∧ t ∈ msgTypeOf.map (·.2.1) := by
  unfold routeMessage at h
  split at h
  · cases h
  next hl =>
    split at h
    · cases h
    · cases h
    next t' ht =>
      split at h
      next hc => cases h; exact ⟨Nat.le_of_not_gt hl, ht, List.contains_iff_mem.mp hc⟩
      next => cases h

theorem C21_limit : maxPayload = 102400 := by decide

example : routeMessage 102400 "a45f" = .decode 42079 := by decide
example : routeMessage 102401 "a45f" = .tooLarge := by decide
example : routeMessage 10 "a460" = .ignored := by decide
example : routeMessage 10 "a463" = .ignored := by decide     -- poll: a peerswap type the swap service ignores
example : routeMessage 10 "xyz" = .typeError := by decide
example : routeMessage 10 "-a45f" = .ignored := by decide
example : routeMessage 10 "A45F" = .decode 42079 := by decide

end PsVerif.Props.C21
