import PsVerif.Model.Upgrade
import PsVerif.Gen.Startup
/-
C29  The database version changes only when no swap is active.

Model: `safeUpgrade`; `isFinished` and the four state tables are GENERATED from the running code.
Tie: differential slice `upgrade` (real VersionService + real bbolt swap store on one file, bucket bytes
compared before/after).
-/
namespace PsVerif.Props.C29
open PsVerif.Gen PsVerif.Model

/-- same version: nothing changes -/
theorem C29_same (cur : String) (states : List St) : safeUpgrade cur (some cur) states = .ok (some cur) := by
  simp [safeUpgrade]

theorem hasActiveSwaps_eq_false {states : List St} :
    hasActiveSwaps states = false ↔ ∀ s ∈ states, isFinished s = true := by
  simp [hasActiveSwaps]

/-- different (or absent) version and every persisted swap terminal: the current version is stored -/
theorem C29_upgrade (cur : String) (stored : Option String) (states : List St) (h : stored ≠ some cur)
    (hall : ∀ s ∈ states, isFinished s = true) : safeUpgrade cur stored states = .ok (some cur) := by
  simp [safeUpgrade, h, hasActiveSwaps_eq_false.mpr hall]

/-- different version and some swap not terminal: startup fails and no new version is produced -/
theorem C29_refuse (cur : String) (stored : Option String) (states : List St) (h : stored ≠ some cur)
    (s : St) (hs : s ∈ states) (hact : isFinished s = false) :
    safeUpgrade cur stored states = .error .activeSwaps := by
  have : hasActiveSwaps states = true := List.any_eq_true.mpr ⟨s, hs, by simp [hact]⟩
  simp [safeUpgrade, h, this]

/-- the version changes only in the all-terminal case -/
theorem C29_changes_only_when_idle (cur : String) (stored new : Option String) (states : List St)
    (h : safeUpgrade cur stored states = .ok new) (hne : new ≠ stored) :
    ∀ s ∈ states, isFinished s = true := by
  unfold safeUpgrade at h
  split at h
  · cases h; exact absurd rfl hne
  · split at h
    · cases h
    · next hh => exact hasActiveSwaps_eq_false.mp (by simpa using hh)

/-- when the question "is a swap active?" cannot be answered (a record does not decode), startup fails and the
    version stays: an unanswered question is not a "no" -/
theorem C29_query_failure (cur : String) (stored : Option String) (records : List (Option St)) (h : stored ≠ some cur)
    (hbad : none ∈ records) : safeUpgradeQ cur stored records = .error .queryFailed := by
  have : records.any Option.isNone = true := List.any_eq_true.mpr ⟨none, hbad, rfl⟩
  simp [safeUpgradeQ, h, this]

/-- over such buckets too the version changes only when every record decodes to a terminal state -/
theorem C29_Q_changes_only_when_idle (cur : String) (stored new : Option String) (records : List (Option St))
    (h : safeUpgradeQ cur stored records = .ok new) (hne : new ≠ stored) :
    ∀ r ∈ records, ∃ s, r = some s ∧ isFinished s = true := by
  unfold safeUpgradeQ at h
  split at h
  · cases h; exact absurd rfl hne
  · split at h
    · cases h
    · next hbad =>
      -- every record decodes, so `safeUpgrade` decided over all of them
      have hall := C29_changes_only_when_idle cur stored new _ h hne
      intro r hr
      cases r with
      | none => exact absurd (List.any_eq_true.mpr ⟨none, hr, rfl⟩) hbad
      | some s => exact ⟨s, rfl, hall s (List.mem_filterMap.mpr ⟨_, hr, rfl⟩)⟩

/-- `IsFinished` is exactly "the state has no outgoing edge" in every generated role table: a terminal
    state that `IsFinished` forgot (or a finished state with an edge) breaks this -/
theorem C29_terminal_iff_no_edges :
    ∀ r ∈ Role.all, ∀ row ∈ table r, (isFinished row.st = true ↔ row.evs = []) := by decide

theorem C29_finished_states :
    St.all.filter isFinished = [.State_ClaimedCoop, .State_ClaimedCsv, .State_ClaimedPreimage, .State_SwapCanceled] := by
  decide

/-! ### the gate in the start-up sequence of the two daemons (regenerated go/ast facts)

`SafeUpgrade` decides correctly (theorems above) — but "otherwise startup FAILS and the stored version and swaps
are left unchanged" also needs (1) that nothing that can write a swap is live before the gate and (2) that a
refusal ends the process.  A reviewing sub-agent showed both failing for the CLN plugin (the message handler
and the commands were live before the gate; after a refusal `outer` only logged and kept waiting, so the
plugin went on accepting swaps on a database it must not touch); repaired in /repo. -/

def gateBefore (d a : String) : Bool :=
  match startupOrder.find? (·.1 == d) with
  | none => false
  | some (_, l) => match l.idxOf? "versionService.SafeUpgrade", l.idxOf? a with
    | some i, some j => decide (i < j)
    | _, _ => false

/-- the version gate comes before the peer-message handler and the commands go live: in the CLN plugin before
    `swapService.Start` (which registers the custom-message handler) and `SetReady` (which unlocks the RPC
    commands); in the LND daemon before `StartListening` (the message stream; its gRPC server starts later still) -/
theorem C29_gate_before_serving :
    gateBefore "cln" "swapService.Start" = true ∧ gateBefore "cln" "lightningPlugin.SetReady" = true
    ∧ gateBefore "cln" "swapService.RecoverSwaps" = true
    ∧ gateBefore "lnd" "lndClient.StartListening" = true ∧ gateBefore "lnd" "swapService.RecoverSwaps" = true := by
  decide +kernel

/-- a failed start ends the process in both daemons (the block guarded by the error of `run` returns the error
    to `main`, which exits / calls Fatal) -/
theorem C29_refusal_ends_process :
    startFailureEndsProcess = [("cln", true), ("lnd", true)] := rfl

example : (safeUpgrade "v0.2" (some "v0.1") [.State_ClaimedCsv, .State_WaitCsv]).toOption = none := by decide
example : (safeUpgrade "v0.2" none [.State_ClaimedCsv]).toOption = some (some "v0.2") := by decide
example : (safeUpgradeQ "v0.2" (some "v0.1") [some .State_ClaimedCsv, none]).toOption = none := by decide

end PsVerif.Props.C29
