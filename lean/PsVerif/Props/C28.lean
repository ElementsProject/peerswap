import PsVerif.Proofs.PeerSync
/-
C28  Peer-sync keeps an accurate, persistent view of peers.

Model: Model/PeerSync.lean — the bbolt peer table as a key-ordered list, the record round trip (`reload`:
an all-zero capability is stored as "no capability"), `storeCapabilityMessage`/`MergeCapabilities`, the poll
round (`pollPeers`: known peers, stale → request_poll, `requestUnknownConnectedPeers` with `allowRequest`
and `pruneRequestTimes`), `cleanupExpired`, `HasCompatiblePeer`, restart (request table lost).
What its functions compute, as lemmas: Proofs/PeerSync.lean (shared with C26).
Tie: slice `peersync`: operation sequences (poll / request_poll with well-formed, all-zero and malformed
payloads, poll rounds with send and ListPeers failures, cleanups, connects/disconnects, clock advances to
both sides of every threshold, restarts) on the REAL PeerSync over a real bbolt store under a virtual clock,
compared after every operation (messages sent) and at dumps (every record, every request time).

"At most once per request interval" is proved for a peer that stays connected: a peer seen disconnected
at a poll round loses its request time (poller.go: "so a peer that reconnects is requested again
immediately") and a restart loses the whole table; both are in the model and shown as examples.
-/
namespace PsVerif.Props.C28
open PsVerif.Model.PeerSync

theorem C28_latest_unless_lower (old : Option Cap) (c : Cap) :
    merge old c = c ∨ ∃ l, old = some l ∧ c.version < l.version ∧ merge old c = l := by
  cases old with
  | none => exact Or.inl rfl
  | some l =>
    by_cases h : c.version < l.version
    · exact Or.inr ⟨l, rfl, h, if_pos h⟩
    · exact Or.inl (if_neg h)

theorem rev_induction {α : Type} {P : List α → Prop} (nil : P []) (snoc : ∀ l a, P l → P (l ++ [a])) :
    ∀ l, P l := by
  intro l
  rw [← List.reverse_reverse l]
  induction l.reverse with
  | nil => exact nil
  | cons a t ih => rw [List.reverse_cons]; exact snoc _ _ ih

/-- the capability stored after a history of polls -/
def mergeAll (init : Option Cap) (h : List Cap) : Option Cap := h.foldl (fun acc c => some (merge acc c)) init

theorem mergeAll_concat (init : Option Cap) (h : List Cap) (c : Cap) :
    mergeAll init (h ++ [c]) = some (merge (mergeAll init h) c) := by
  unfold mergeAll; rw [List.foldl_append]; rfl

/-- over any non-empty history of accepted polls the stored capability is one of them, has the highest
    version seen, and every poll received after it advertised a strictly lower version -/
theorem C28_merge_history (h : List Cap) (hne : h ≠ []) :
    ∃ s pre post, mergeAll none h = some s ∧ h = pre ++ s :: post ∧
      (∀ c ∈ h, c.version ≤ s.version) ∧ (∀ c ∈ post, c.version < s.version) := by
  induction h using rev_induction with
  | nil => exact absurd rfl hne
  | snoc h c ih =>
    by_cases hh : h = []
    · subst hh
      exact ⟨c, [], [], rfl, rfl, by simp, by simp⟩
    · obtain ⟨s, pre, post, h1, h2, h3, h4⟩ := ih hh
      have hm : mergeAll none (h ++ [c]) = some (merge (some s) c) := by rw [mergeAll_concat, h1]
      -- the new poll joins the losers, or wins and has none after it
      by_cases hv : c.version < s.version
      · refine ⟨s, pre, post ++ [c], hm.trans (congrArg some (if_pos hv)), by rw [h2]; simp, ?_, ?_⟩
        · exact List.forall_mem_append.mpr ⟨h3, fun x hx => by rw [List.mem_singleton.mp hx]; omega⟩
        · exact List.forall_mem_append.mpr ⟨h4, fun x hx => by rw [List.mem_singleton.mp hx]; exact hv⟩
      · refine ⟨c, h, [], hm.trans (congrArg some (if_neg hv)), rfl, ?_, by simp⟩
        exact List.forall_mem_append.mpr
          ⟨fun x hx => by have := h3 x hx; omega, fun x hx => by rw [List.mem_singleton.mp hx]; omega⟩

/-- a poll (or request_poll) with a well-formed payload from a peer that is not suspicious: the stored
    record carries the merge of the stored and the received capability, is marked observed now, and no
    other peer's record changes -/
theorem C28_store_poll (s : St) (src : String) (c : Cap) (hs : s.suspicious.contains src = false) :
    lookup (storeCap s src c).peers src =
      some (reload { ((lookup s.peers src).getD newPeer) with
        cap := some (merge ((lookup s.peers src).getD newPeer).cap c), lastObs := some s.now, status := .active })
    ∧ ∀ k, k ≠ src → lookup (storeCap s src c).peers k = lookup s.peers k := by
  unfold storeCap
  simp only [hs, Bool.false_eq_true, if_false]
  exact ⟨by rw [lookup_put, if_pos rfl], fun k hk => by rw [lookup_put, if_neg hk]⟩

/-- suspicious peers and malformed payloads never change the table -/
theorem C28_store_ignored (s : St) (t : MsgType) (src : String) :
    (recv s t src none).1 = s ∧ (∀ c, s.suspicious.contains src = true → (recv s t src (some c)).1 = s) :=
  ⟨recv_fst s t src none, fun c hs => (recv_fst s t src (some c)).trans (if_pos hs)⟩

/-- the capability field as a reader gets it back from the store -/
def norm (c : Option Cap) : Option Cap :=
  match c with
  | none => none
  | some c => if c.hasData then some c else none

theorem reload_eq (r : PeerRec) : reload r = { r with cap := norm r.cap } := rfl

/-- the store changes a capability in one case only: no field of it is set, and it comes back as none -/
theorem norm_cases (c : Option Cap) :
    norm c = c ∨ ∃ z, c = some z ∧ norm c = none ∧ z.version = 0 ∧ ∀ x ∈ z.rates, x = 0 := by
  cases c with
  | none => exact Or.inl rfl
  | some z =>
    cases h : z.hasData with
    | true => exact Or.inl (if_pos h)
    | false =>
      have hz := h
      simp [Cap.hasData] at hz
      exact Or.inr ⟨z, rfl, if_neg (by simp [h]), hz.1.1.1, hz.2⟩

theorem norm_norm (c : Option Cap) : norm (norm c) = norm c := by
  rcases norm_cases c with h | ⟨_, _, h, _⟩
  · exact congrArg norm h
  · rw [h]; rfl

theorem C28_reload_idempotent (r : PeerRec) : reload (reload r) = reload r := by
  simp only [reload_eq, norm_norm]

/-- a record reloads to itself unless its capability is the all-zero capability, which the record format
    cannot tell from "no capability" … -/
theorem C28_reload_identity (r : PeerRec) (h : ∀ c, r.cap = some c → c.hasData = true) : reload r = r := by
  have : norm r.cap = r.cap := by
    cases hc : r.cap with
    | none => rfl
    | some c => exact if_pos (h c hc)
  rw [reload_eq, this]

def capCompatible (v : Nat) (c : Option Cap) : Bool := match c with | some c => c.version == v | none => false
def capRate (c : Option Cap) (i : Nat) : Int := match c with | some c => c.rates.getD i 0 | none => 0

/-- … and that difference is invisible to every query: the peer is compatible with a non-zero protocol
    version before the reload iff after, and all its rates read 0 either way -/
theorem C28_reload_unobservable (r : PeerRec) (v : Nat) (hv : v ≠ 0) (i : Nat) :
    capCompatible v (reload r).cap = capCompatible v r.cap ∧ capRate (reload r).cap i = capRate r.cap i := by
  show capCompatible v (norm r.cap) = _ ∧ capRate (norm r.cap) i = _
  rcases norm_cases r.cap with h | ⟨z, hz, h, hver, hrates⟩
  · rw [h]; exact ⟨rfl, rfl⟩
  · rw [h, hz]
    constructor
    · exact (beq_eq_false_iff_ne.mpr (hver ▸ hv.symm)).symm
    · show (0 : Int) = z.rates.getD i 0
      by_cases hi : i < z.rates.length
      · simp [List.getD, hi, hrates _ (List.getElem_mem hi)]
      · simp [List.getD, hi]

/-- merging looks at the stored capability only through what a reader sees of it -/
theorem merge_norm (old : Option Cap) (c : Cap) : merge (norm old) c = merge old c := by
  rcases norm_cases old with h | ⟨z, hz, h, hver, _⟩
  · rw [h]
  · rw [h, hz]
    exact (if_neg (by omega)).symm

/-- what a cleanup sweep leaves: a record stays iff its peer is connected or not expired; connected peers'
    records are untouched, the others are rewritten as they reload -/
theorem C28_cleanup_spec (cfg : Cfg) (s : St) (k : String) (r : PeerRec) :
    (k, r) ∈ (cleanup cfg s false).peers ↔
      ∃ r0, (k, r0) ∈ s.peers ∧ (s.connected.contains k = true ∨ isExpired cfg s.now r0 = false) ∧
        r = (if s.connected.contains k then r0 else reload r0) := by
  have hf : ∀ e : String × PeerRec, (if s.connected.contains e.1 then e else (e.1, reload e.2)) =
      (e.1, if s.connected.contains e.1 then e.2 else reload e.2) := fun e => by split <;> rfl
  simp only [cleanup, Bool.false_eq_true, if_false, hf, List.mem_map, List.mem_filter, Bool.or_eq_true,
    Bool.not_eq_true', Prod.exists, Prod.mk.injEq]
  constructor
  · rintro ⟨k0, r0, hm, rfl, rfl⟩
    exact ⟨r0, hm.1, hm.2, rfl⟩
  · rintro ⟨r0, hm, hc, rfl⟩
    exact ⟨k, r0, ⟨hm, hc⟩, rfl, rfl⟩

/-- expired peers are removed only while disconnected: a connected peer's record always survives … -/
theorem C28_cleanup_keeps_connected (cfg : Cfg) (s : St) (k : String) (r : PeerRec) (lf : Bool)
    (hm : (k, r) ∈ s.peers) (hc : s.connected.contains k = true) : (k, r) ∈ (cleanup cfg s lf).peers := by
  cases lf
  · exact (C28_cleanup_spec cfg s k r).mpr ⟨r, hm, Or.inl hc, (if_pos hc).symm⟩
  · exact hm

/-- … and whatever a sweep removes was expired and not connected (and nothing is removed when the list of
    connected peers cannot be obtained) -/
theorem C28_cleanup_removes_only_expired (cfg : Cfg) (s : St) (k : String) (r0 : PeerRec) (lf : Bool)
    (hm : (k, r0) ∈ s.peers) (hgone : ∀ r, (k, r) ∉ (cleanup cfg s lf).peers) :
    lf = false ∧ s.connected.contains k = false ∧ isExpired cfg s.now r0 = true := by
  cases lf
  · refine ⟨rfl, ?_, ?_⟩
    · cases hc : s.connected.contains k
      · rfl
      · exact absurd (C28_cleanup_keeps_connected cfg s k r0 false hm hc) (hgone r0)
    · cases he : isExpired cfg s.now r0
      · exact absurd ((C28_cleanup_spec cfg s k _).mpr ⟨r0, hm, Or.inr he, rfl⟩) (hgone _)
      · rfl
  · exact absurd hm (hgone r0)

/-- an expired, disconnected peer is removed by the sweep (keys are unique in the table) -/
theorem C28_cleanup_removes_expired (cfg : Cfg) (s : St) (k : String)
    (hexp : ∀ r0, (k, r0) ∈ s.peers → isExpired cfg s.now r0 = true) (hc : s.connected.contains k = false) :
    ∀ r, (k, r) ∉ (cleanup cfg s false).peers := by
  intro r hr
  obtain ⟨r0, hm, h2, _⟩ := (C28_cleanup_spec cfg s k r).mp hr
  rcases h2 with h | h
  · rw [hc] at h; cases h
  · rw [hexp r0 hm] at h; cases h

def reqTime (lr : List (String × Nat)) (k : String) : Option Nat := (lr.find? (·.1 == k)).map (·.2)

theorem allowRequest_eq (cfg : Cfg) (lr : List (String × Nat)) (now : Nat) (force : Bool) (k : String) :
    allowRequest cfg lr now force k =
      match reqTime lr k with
      | some t => force || !(decide (now - t < cfg.requestInterval))
      | none => true := by
  unfold allowRequest reqTime
  cases lr.find? (·.1 == k) <;> rfl

theorem reqTime_setReq (lr : List (String × Nat)) (k' k : String) (t : Nat) :
    reqTime (setReq lr k' t) k = if k' = k then some t else reqTime lr k := by
  unfold reqTime
  rw [find?_setReq]
  split <;> rfl

/-- **request rate**: in a poll round that is not forced, a request goes to an unknown peer only if it is
    connected, not suspicious, and either holds no request time (never asked since it was last seen
    disconnected or since the process started) or was last asked at least one request interval ago -/
theorem C28_request_rate (cfg : Cfg) (s : St) (fails : List String) (lf : Bool) (k : String)
    (hunk : k ∉ s.peers.map (·.1))
    (h : (k, MsgType.requestPoll) ∈ (round cfg s false fails lf).2) :
    k ∈ s.connected ∧ s.suspicious.contains k = false ∧
      (reqTime s.lastReq k = none ∨ ∃ t, reqTime s.lastReq k = some t ∧ cfg.requestInterval ≤ s.now - t) := by
  rcases round_sent h with ⟨r, hm, _⟩ | ⟨hc, ha⟩
  · exact absurd (List.mem_map_of_mem (f := (·.1)) hm) hunk
  · obtain ⟨_, hsusp, hallow⟩ := asks_eq_true.mp ha
    refine ⟨hc, hsusp, ?_⟩
    rw [allowRequest_eq] at hallow
    cases hr : reqTime s.lastReq k with
    | none => exact Or.inl rfl
    | some t =>
      rw [hr] at hallow
      exact Or.inr ⟨t, rfl, by simpa using hallow⟩

/-- a peer counts as peerswap-compatible exactly when its stored capability carries this node's version -/
theorem C28_compatible_iff (cfg : Cfg) (s : St) (k : String) :
    compatible cfg s k = true ↔ ∃ r c, lookup s.peers k = some r ∧ r.cap = some c ∧ c.version = cfg.ourVersion := by
  unfold compatible
  cases h1 : lookup s.peers k with
  | none => simp
  | some r =>
    cases h2 : r.cap with
    | none => simp [h2]
    | some c => simp [h2]

theorem reqTime_requestUnknown_of_not_mem (cfg : Cfg) (now : Nat) (force : Bool) (known susp fails : List String)
    (lr : List (String × Nat)) {conn : List String} {k : String} (hk : k ∉ conn) :
    reqTime (requestUnknown cfg now force known susp fails lr conn).1 k = reqTime lr k := by
  induction conn generalizing lr with
  | nil => rfl
  | cons k0 rest ih =>
    have hr : k ∉ rest := fun hh => hk (List.mem_cons_of_mem _ hh)
    rw [requestUnknown_cons]
    split
    · rw [ih _ hr, reqTime_setReq, if_neg fun e : k0 = k => hk (e ▸ List.mem_cons_self)]
    · exact ih lr hr

/-- the attempt is recorded: after the round the peer's request time is the round's time -/
theorem requestUnknown_records (cfg : Cfg) (now : Nat) (force : Bool) (known susp fails : List String)
    (lr : List (String × Nat)) (conn : List String) (k : String) (hn : conn.Nodup) (hk : k ∈ conn)
    (h1 : known.contains k = false) (h2 : susp.contains k = false) (h3 : allowRequest cfg lr now force k = true) :
    reqTime (requestUnknown cfg now force known susp fails lr conn).1 k = some now := by
  have hask := asks_eq_true.mpr ⟨h1, h2, h3⟩
  clear h1 h2 h3
  induction conn generalizing lr with
  | nil => cases hk
  | cons k0 rest ih =>
    obtain ⟨hk0, hn'⟩ := List.nodup_cons.mp hn
    rw [requestUnknown_cons]
    rcases List.mem_cons.mp hk with rfl | hk'
    · -- its own visit sets the time; the later visits are to other peers
      rw [if_pos hask, reqTime_requestUnknown_of_not_mem _ _ _ _ _ _ _ hk0, reqTime_setReq, if_pos rfl]
    · split
      · exact ih _ hn' hk' ((asks_setReq_other (fun e : k0 = k => hk0 (e ▸ hk')) now).trans hask)
      · exact ih lr hn' hk' hask

/-- the capability a reader gets for `k` (a stored capability without data reads as none) -/
def capOf (s : St) (k : String) : Option Cap := (lookup s.peers k).bind fun r => (reload r).cap

theorem capOf_markStored (s : St) (k k' : String) : capOf (markStored s k) k' = capOf s k' := by
  unfold markStored
  cases hl : lookup s.peers k with
  | none => rfl
  | some r =>
    simp only [capOf, lookup_put]
    split
    · next hk => rw [hk, hl]; exact norm_norm r.cap
    · rfl

theorem capOf_storeCap (s : St) (src : String) (c : Cap) (k : String) :
    capOf (storeCap s src c) k =
      if s.suspicious.contains src then capOf s k
      else if k = src then norm (some (merge (capOf s src) c)) else capOf s k := by
  unfold storeCap
  split
  · rfl
  · simp only [capOf, lookup_put]
    split
    · simp only [Option.bind_some, reload_eq, norm_norm]
      -- the record merged into is the stored one or `newPeer`: its capability merges as what `capOf` reads
      cases lookup s.peers src with
      | none => rfl
      | some r => simp only [Option.getD_some, Option.bind_some, merge_norm]
    · rfl

/-- what the run of a schedule and the run of its receipts alone keep in common: all that `storeCap` reads -/
def SameCaps (s s' : St) : Prop := s.suspicious = s'.suspicious ∧ ∀ k, capOf s k = capOf s' k

theorem sameCaps_recv (s s' : St) (t : MsgType) (src : String) (p : Option Cap) (h : SameCaps s s') :
    SameCaps (recv s t src p).1 (recv s' t src p).1 := by
  rw [recv_fst, recv_fst]
  cases p with
  | none => exact h
  | some c =>
    refine ⟨by rw [storeCap_suspicious, storeCap_suspicious, h.1], fun k => ?_⟩
    rw [capOf_storeCap, capOf_storeCap, h.1, h.2 k, h.2 src]

theorem sameCaps_markStored (s s' : St) (k : String) (h : SameCaps s s') : SameCaps (markStored s k) s' :=
  ⟨(markStored_suspicious s k).trans h.1, fun k' => (capOf_markStored s k k').trans (h.2 k')⟩

def IlOp.isRecv : IlOp → Bool
  | .recv _ _ _ => true
  | _ => false

theorem sameCaps_runIl (ops : List IlOp) : ∀ (s s' : St), SameCaps s s' →
    SameCaps (runIl s ops).1 (runIl s' (ops.filter IlOp.isRecv)).1 := by
  induction ops with
  | nil => intro s s' h; exact h
  | cons op rest ih =>
    intro s s' h
    cases op with
    | recv t src p => exact ih _ _ (sameCaps_recv _ _ _ _ _ h)
    | mark k => exact ih _ _ (sameCaps_markStored _ _ _ h)
    | send k t => exact ih _ _ h

/-- WHATEVER the interleaving of a round's sends and poll-time records with the messages handled meanwhile —
    any number of either, in any order — every peer's stored capability is the one the handled messages
    alone produce, in their order: the round never takes a received capability back.  With
    `C28_merge_history` the stored capability is therefore the most recent poll (unless it advertised a
    lower version) under every schedule. -/
theorem C28_marks_never_change_capabilities (s : St) (ops : List IlOp) (k : String) :
    capOf (runIl s ops).1 k = capOf (runIl s (ops.filter IlOp.isRecv)).1 k :=
  (sameCaps_runIl ops s s ⟨rfl, fun _ => rfl⟩).2 k

/-- the code before fix 55c208f wrote the copy loaded before the send: the peer's version-7 poll handled
    during the send is gone after the round (the schedule the C28 monitor replays on the real code) -/
theorem C28_snapshot_mark_loses_poll :
    let c6 : Cap := ⟨6, [.btc], true, [100, 0, 0, 0]⟩
    let c7 : Cap := ⟨7, [.btc, .lbtc], true, [777, 0, 0, 0]⟩
    let r6 : PeerRec := ⟨some c6, .active, none, some 5⟩
    let s : St := ⟨[("02ab", r6)], [], 10, [], []⟩
    capOf (markSnapshot (recv s .poll "02ab" (some c7)).1 "02ab" r6) "02ab" = some c6
    ∧ capOf (markStored (recv s .poll "02ab" (some c7)).1 "02ab") "02ab" = some c7 := by
  decide

/-- key order of the table (bbolt iterates a bucket in key order) -/
def Sorted (ps : List (String × PeerRec)) : Prop := ps.Pairwise fun a b => a.1 < b.1

theorem sorted_of_keys (ps qs : List (String × PeerRec)) (hk : qs.map (·.1) = ps.map (·.1)) (h : Sorted ps) : Sorted qs := by
  unfold Sorted at *
  have h1 : (ps.map (·.1)).Pairwise (· < ·) := List.pairwise_map.mpr h
  rw [← hk] at h1
  exact List.pairwise_map.mp h1

theorem sorted_map (f : String × PeerRec → String × PeerRec) (hf : ∀ e, (f e).1 = e.1) (ps : List (String × PeerRec))
    (h : Sorted ps) : Sorted (ps.map f) :=
  List.Pairwise.map f (fun a b hab => by rw [hf a, hf b]; exact hab) h

theorem put_sorted (ps : List (String × PeerRec)) (k : String) (r : PeerRec) (h : Sorted ps) : Sorted (put ps k r) := by
  induction ps with
  | nil => exact List.pairwise_singleton _ _
  | cons e rest ih =>
    obtain ⟨k0, r0⟩ := e
    obtain ⟨h0, hr⟩ := List.pairwise_cons.mp h
    unfold put
    split
    · next h1 => exact List.pairwise_cons.mpr ⟨fun b hb => h1 ▸ h0 b hb, hr⟩
    · split
      · next h2 =>
        exact List.pairwise_cons.mpr
          ⟨fun b hb => (List.mem_cons.mp hb).elim (· ▸ h2) fun hb => String.lt_trans h2 (h0 b hb), h⟩
      · next h1 h2 =>
        have h3 : k0 < k := Decidable.byContradiction fun hn =>
          h1 (String.le_antisymm (String.not_lt.mp hn) (String.not_lt.mp h2))
        exact List.pairwise_cons.mpr ⟨fun b hb => (mem_put hb).elim (· ▸ h3) (h0 b), ih hr⟩

/-- sending to the entries of the snapshot that `p` selects and marking each after its send maps the table:
    `pre` is the part of the table the schedule is done with, `ps` the part of the snapshot still ahead -/
theorem runIl_marks (p : String × PeerRec → Bool) (m : String × PeerRec → MsgType) (ps : List (String × PeerRec)) :
    ∀ (pre : List (String × PeerRec)) (s : St), s.peers = pre ++ ps → Sorted (pre ++ ps) →
      runIl s ((ps.filter p).flatMap fun e => [IlOp.send e.1 (m e), IlOp.mark e.1]) =
        ({ s with peers := pre ++ ps.map fun e =>
            if (p e) then (e.1, reload { e.2 with lastPoll := some s.now }) else e },
         (ps.filter p).map fun e => (e.1, m e)) := by
  induction ps with
  | nil =>
    intro pre s hs _
    show (s, []) = ({ s with peers := pre ++ [] }, [])
    rw [← hs]
  | cons e rest ih =>
    intro pre s hs hsorted
    obtain ⟨k, r⟩ := e
    rw [List.filter_cons]
    split
    · next hp =>
      -- the mark finds `k` behind `pre`, and leaves the keys as they are
      have hpre : ∀ a ∈ pre, a.1 < k := fun a ha =>
        (List.pairwise_append.mp hsorted).2.2 a ha (k, r) List.mem_cons_self
      simp only [List.flatMap_cons, List.cons_append, List.nil_append, runIl, ilStep, markStored_mid hs hpre]
      rw [ih (pre ++ [(k, reload { r with lastPoll := some s.now })]) _ (by simp)
        (sorted_of_keys _ _ (by simp) hsorted)]
      simp [hp]
    · next hp =>
      rw [ih (pre ++ [(k, r)]) s (by simp [hs]) (by simpa using hsorted)]
      simp [hp]

/-- with nothing handled during the round, the round in steps IS the atomic round the other theorems and
    the peersync slice's `sync.round` speak about -/
theorem C28_round_in_steps_refines (cfg : Cfg) (s : St) (force : Bool) (fails : List String) (lf : Bool)
    (h : Sorted s.peers) : roundIl cfg s force fails lf none = round cfg s force fails lf := by
  unfold roundIl round
  rw [knownSchedule_eq, pollKnown_eq]
  simp only [duringOps, List.nil_append]
  rw [runIl_marks _ _ s.peers [] s rfl h]
  cases lf <;> simp

/-- the table stays in key order under every operation of the model, so `C28_round_in_steps_refines`
    applies in every reachable state -/
theorem C28_sorted_invariant (cfg : Cfg) (s : St) (h : Sorted s.peers) :
    (∀ t src p, Sorted (recv s t src p).1.peers)
    ∧ (∀ force fails lf, Sorted (round cfg s force fails lf).1.peers)
    ∧ (∀ lf, Sorted (cleanup cfg s lf).peers)
    ∧ Sorted (restart s).peers
    ∧ (∀ k, Sorted (markStored s k).peers) := by
  refine ⟨fun t src p => ?_, fun force fails lf => ?_, fun lf => ?_, sorted_map (fun e => (e.1, reload e.2)) (fun _ => rfl) _ h, fun k => ?_⟩
  · rw [recv_fst]
    cases p with
    | none => exact h
    | some c =>
      show Sorted (storeCap s src c).peers
      unfold storeCap
      split
      · exact h
      · exact put_sorted _ _ _ h
  · rw [round_peers, pollKnown_eq]
    exact sorted_map _ (fun e => by split <;> rfl) _ h
  · cases lf
    · exact sorted_map _ (fun e => by split <;> rfl) _ (List.Pairwise.filter _ h)
    · exact h
  · unfold markStored
    split
    · exact h
    · exact put_sorted _ _ _ h

theorem knownSchedule_recvs (cfg : Cfg) (now : Nat) (susp : List String) (force : Bool) (fails : List String)
    (t : MsgType) (src : String) (p : Option Cap) (ps : List (String × PeerRec)) :
    ∃ n, (knownSchedule cfg now susp force fails (some (t, src, p)) ps).filter IlOp.isRecv
      = List.replicate n (IlOp.recv t src p) := by
  refine ⟨_, List.eq_replicate_iff.mpr ⟨rfl, fun op hop => ?_⟩⟩
  obtain ⟨hmem, hr⟩ := List.mem_filter.mp hop
  rw [knownSchedule_eq] at hmem
  obtain ⟨e, _, he⟩ := List.mem_flatMap.mp hmem
  -- of the ops scheduled for one peer only those of `duringOps` are receipts
  rcases List.mem_cons.mp he with rfl | he
  · cases hr
  · rcases List.mem_append.mp he with he | he
    · simp only [duringOps] at he
      split at he
      · exact List.mem_singleton.mp he
      · cases he
    · rw [List.mem_singleton.mp he] at hr; cases hr

/-- the executable round with a message handled during a send to its source (the `sync.roundduring`
    operation of the peersync slice, run against the real poller with the real handler called from inside
    the send): every capability after the round is what handling that message alone — as many times as
    the round sent to its source — leaves -/
theorem C28_round_with_message (cfg : Cfg) (s : St) (force : Bool) (fails : List String) (lf : Bool)
    (t : MsgType) (src : String) (p : Option Cap) :
    ∃ n, ∀ k, capOf (roundIl cfg s force fails lf (some (t, src, p))).1 k
        = capOf (runIl s (List.replicate n (IlOp.recv t src p))).1 k := by
  obtain ⟨n, hn⟩ := knownSchedule_recvs cfg s.now s.suspicious force fails t src p s.peers
  have h1 := sameCaps_runIl (knownSchedule cfg s.now s.suspicious force fails (some (t, src, p)) s.peers) s s
    ⟨rfl, fun _ => rfl⟩
  rw [hn] at h1
  unfold roundIl
  cases lf
  · simp only [Bool.false_eq_true, if_false]
    split
    · -- a request went to `src` as well: the message is handled once more, after the known peers
      refine ⟨n + 1, fun k => ?_⟩
      rw [List.replicate_succ', runIl_append]
      refine (?_ : SameCaps _ _).2 k
      exact sameCaps_recv _ _ t src p h1
    · exact ⟨n, h1.2⟩
  · exact ⟨n, h1.2⟩

-- non-vacuity and the shape of the rule, on the real intervals (10 s poll, 30 min timeout, 10 min request)
def cfg0 : Cfg := ⟨10000, 1800000, 600000, 7⟩
def s0 : St := ⟨[], [], 1000000, ["02aa"], []⟩
/-- an unknown connected peer is asked in the first round, not again 9 min 59 s later, again after 10 min -/
example : (round cfg0 s0 false [] false).2 = [("02aa", .requestPoll)] := by decide
example : (round cfg0 { (round cfg0 s0 false [] false).1 with now := 1000000 + 599000 } false [] false).2 = [] := by decide
example : (round cfg0 { (round cfg0 s0 false [] false).1 with now := 1000000 + 600000 } false [] false).2
    = [("02aa", .requestPoll)] := by decide
/-- a forced round asks regardless; a peer seen disconnected at a round loses its request time (by design:
    "a peer that reconnects is requested again immediately") -/
example : (round cfg0 { (round cfg0 s0 false [] false).1 with now := 1000000 + 1000 } true [] false).2
    = [("02aa", .requestPoll)] := by decide
example : (round cfg0 { (round cfg0 { (round cfg0 s0 false [] false).1 with connected := [], now := 1010000 } false [] false).1
    with connected := ["02aa"], now := 1020000 } false [] false).2 = [("02aa", .requestPoll)] := by decide
example : mergeAll none [⟨7, [], true, [0,0,0,0]⟩, ⟨6, [.btc], true, [0,0,0,0]⟩, ⟨7, [.lbtc], false, [1,0,0,0]⟩, ⟨5, [], true, [0,0,0,0]⟩]
    = some ⟨7, [.lbtc], false, [1,0,0,0]⟩ := by decide

/-- the schedule of finding 55c208f in the model of the code as it is now: the version-7 poll handled during
    the send survives the round, and the table used is in key order -/
def s6 : St := ⟨[("02ab", ⟨some ⟨6, [.btc], true, [100, 0, 0, 0]⟩, .active, none, some 5⟩)], [], 20000, ["02ab"], []⟩
example : Sorted s6.peers := by simp [Sorted, s6]
example : capOf (roundIl cfg0 s6 false [] false (some (.poll, "02ab", some ⟨7, [.btc, .lbtc], true, [777, 0, 0, 0]⟩))).1 "02ab"
    = some ⟨7, [.btc, .lbtc], true, [777, 0, 0, 0]⟩ := by decide
example : (roundIl cfg0 s6 false [] false (some (.requestPoll, "02ab", none))).2 = [("02ab", .poll), ("02ab", .poll)] := by decide

end PsVerif.Props.C28
