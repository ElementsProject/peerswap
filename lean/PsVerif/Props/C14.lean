import PsVerif.Proofs.RecordRT
import PsVerif.Gen.Schema
/-
C14  Persisted swap records reload to identical swap data.

Model: Model/Record.lean — encoding/json for the kinds of Go types the record uses (`enc`/`dec`), and the
record's own shape `Gen.fsmTy`, GENERATED by reflection over swap.SwapStateMachine on every run
(json keys, omitempty flags, kinds, nesting), with `Gen.fsmDropped` = the fields that never reach the
record.  Tie: slice `record` — random records built on the real structs, `json.Marshal` text compared
byte for byte with the model's `enc` rendered as JSON; monitor C14 writes records to the real bbolt store,
reads them back and compares every field, and reloads the records of real swaps in every rest state.
-/
namespace PsVerif.Props.C14
open PsVerif.Model.Record PsVerif.Proofs.RecordRT PsVerif.Gen

/-- the record type as it is declared now is one the codec round-trips: within every struct the JSON keys
    are pairwise different, and `omitempty` sits only on kinds whose empty value is the zero value -/
theorem C14_schema_ok : okTy fsmTy = true := by decide +kernel

/-- **every record reloads to the same swap data**: for every value of the record type — every role, state,
    message combination, arbitrary strings, all integers of the declared widths, nil and non-nil byte
    slices and ids — decoding the encoding yields that value -/
theorem C14_roundtrip (v : V) (h : wt fsmTy v = true) : dec fsmTy (enc fsmTy v) = some v :=
  rt fsmTy v h C14_schema_ok

/-- what is NOT in the record, exactly: the state tables (rebuilt from role and type on recovery), the
    locks, the service pointer, the retry/failure counters, the timeout cancel function, and the error
    value `LastErr` (its text is persisted as `last_err`) -/
theorem C14_dropped : fsmDropped =
    ["SwapStateMachine.States", "SwapStateMachine.mutex", "SwapStateMachine.swapServices",
     "SwapStateMachine.retries", "SwapStateMachine.failures", "SwapStateMachine.stateMutex",
     "SwapStateMachine.stateChange", "SwapData.LastErr", "SwapData.toCancel"] := rfl

/-- an interface-typed field (`last_message`) can be persisted only as nil: a non-nil value would make
    the record unreadable, and the type admits none -/
theorem C14_iface_only_nil (v : V) (h : wt .iface v = true) : v = .nilIface := wt_inv h

/-- and the code never assigns one: no assignment statement and no composite-literal key in non-test code names
    an interface-typed field of the record (go/ast facts over the whole module, regenerated each run).  This is
    what makes `nilIface` the only value the model needs. -/
theorem C14_iface_never_assigned : fsmIfaceFields = ["LastMessage"] ∧ fsmIfaceAssigned = [] := ⟨rfl, rfl⟩

/-- decoding is insensitive to unknown keys in front of the record's own (records written by a newer
    version with extra fields still load) -/
theorem C14_unknown_key_ignored (tf : TF) (jf : JF) (k : String) (j : J) (hk : k ∉ tf.keys) :
    decF tf (.cons k j jf) = decF tf jf := decF_cons_absent k j jf tf hk

-- non-vacuity: a record with nested messages, negative premium, extreme integers, empty and nil slices
def sampleId : List Nat := List.replicate 32 171
def sampleMsg : V := .ptr (.cons (.num 7) (.cons (.id (some sampleId)) (.cons (.str "mainnet") (.cons (.str "")
  (.cons (.str "100x1x0") (.cons (.num 18446744073709551615) (.cons (.str "02ab") (.cons (.num (-9223372036854775808)) .nil))))))))
example : wt (.ptr (.cons "protocol_version" false (.uint 8) (.cons "swap_id" false .id (.cons "network" false .str
    (.cons "asset" false .str (.cons "scid" false .str (.cons "amount" false (.uint 64) (.cons "pubkey" false .str
    (.cons "acceptable_premium" false (.int 64) .nil))))))))) sampleMsg = true := by decide

end PsVerif.Props.C14
