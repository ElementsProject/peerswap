import PsVerif.Proofs.MkCert
import PsVerif.Model.Admit
import PsVerif.Proofs.PeerSync
/-
C26  Peers that forced a CSV refund are quarantined.

Model: `suspicious` flag of Model/AbsMk.lean (set by AddSuspiciousPeerAction, the first action of the
generated State_ClaimedCsv rows), the admission model (Model/Admit.lean) and the peer-sync model
(Model/PeerSync.lean, tied by slice `peersync`): a suspicious peer's request_poll is not answered and
its poll is not stored whatever the payload, and no poll round sends to it.  The refusal of local
initiations is checked by the monitor on the real SwapService with the REAL policy file.
-/
namespace PsVerif.Props.C26
open PsVerif.Gen PsVerif.Model PsVerif.Model.Abs PsVerif.Model.AbsMk PsVerif.Proofs.MkCert

/-- every swap that ended in State_ClaimedCsv has the peer on the suspicious list (when the policy file is
    configured, i.e. AddToSuspiciousPeerList does not fail), in every history -/
theorem C26_recorded_in : ∀ m, Reach (sysIn benign) m → quarantined m = true :=
  fun m hm => (allProps_in m hm).quarantined
theorem C26_recorded_out : ∀ m, Reach (sysOut benign) m → quarantined m = true :=
  fun m hm => (allProps_out m hm).quarantined

/-- the generated tables run AddSuspiciousPeerAction in State_ClaimedCsv for both maker roles -/
theorem C26_action_in_table :
    ∀ r ∈ [Role.SwapInSender, Role.SwapOutReceiver], ∀ row ∈ table r, row.st = .State_ClaimedCsv →
      row.acts = [.AddSuspiciousPeerAction, .NoOpDoneAction] := by decide

/-- a request from a suspicious peer is never answered with an agreement, whatever else holds -/
theorem C26_blocks_requests (c : NodeCfg) (r : Request) (h : c.suspicious = true) :
    ∃ reason, admission c r = .cancel reason := by
  unfold admission
  cases hf : (refusals c r).find? (·.1) with
  | some x => exact ⟨x.2, rfl⟩
  | none =>
    exfalso
    have := List.find?_eq_none.mp hf (c.suspicious, "suspicious") (by simp [refusals])
    simp [h] at this

/-- peer-sync neither answers a suspicious peer nor stores anything from it, for every message type and
    every payload (well-formed or not) -/
theorem C26_peersync_silent (s : PeerSync.St) (t : PeerSync.MsgType) (src : String) (payload : Option PeerSync.Cap)
    (hs : s.suspicious.contains src = true) : PeerSync.recv s t src payload = (s, []) := by
  have hs' : src ∈ s.suspicious := by simpa using hs
  cases t <;> cases payload <;> simp [PeerSync.recv, PeerSync.storeCap, hs']

/-- no poll round, forced or not, sends anything to a suspicious peer -/
theorem C26_peersync_never_polls (cfg : PeerSync.Cfg) (s : PeerSync.St) (force : Bool) (fails : List String) (lf : Bool)
    (k : String) (hs : s.suspicious.contains k = true) (ty : PeerSync.MsgType) :
    (k, ty) ∉ (PeerSync.round cfg s force fails lf).2 := by
  intro h
  rcases PeerSync.round_sent h with ⟨r, _, hp⟩ | ⟨_, ha⟩
  · cases hs.symm.trans (PeerSync.polls_eq_true.mp hp).2.1
  · cases hs.symm.trans (PeerSync.asks_eq_true.mp ha).2.1

end PsVerif.Props.C26
