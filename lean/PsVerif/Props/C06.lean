import PsVerif.Model.AbsC06
import PsVerif.Proofs.Search
/-
C06  A taker never reveals its swap key once its claim payment may have gone out.

Model: the abstract engine (Model/Abs.lean) over the GENERATED tables of both taker roles with the
flag summaries of Model/AbsC06.lean.  `Reach` quantifies over every history: external events of every
kind in every order, crashes at every persisted point and inside every action, restarts, and a pending
HTLC resolving either way at any time.

Full statement (`C06_statement`): for the unrestricted environment.  It does NOT hold on this tree
(see Findings/C06.lean and known_findings.json: a pay attempt that errors while its HTLC is pending,
and a crash between the start of the payment and the next persist on a back-end that refuses to pay
a hash twice).  What is proved here (`C06_partial_*`): it holds for every history in which every pay
error is definitive and no crash falls between the start of a payment and the persist that follows.
-/
namespace PsVerif.Props.C06
open PsVerif.Gen PsVerif.Model.Abs PsVerif.Model.AbsC06

def benign : Backend := { errorWhilePending := false, crashInPay := false }
def hostile : Backend := { errorWhilePending := true, crashInPay := true }

def sysOut (b : Backend) := sys .SwapOutSender tableSwapOutSender b
def sysIn (b : Backend) := sys .SwapInReceiver tableSwapInReceiver b

/-- the property, per configuration -/
def holds (m : MC F) : Bool := good m && keepsClaiming m

/-- C06 at full strength: in every reachable configuration of both taker roles, for the hostile
    environment as well -/
def C06_statement : Prop :=
  (∀ m, Reach (sysOut hostile) m → holds m = true) ∧ (∀ m, Reach (sysIn hostile) m → holds m = true)

def certOut := reachCert (sysOut benign) 64
def certIn := reachCert (sysIn benign) 64

/-- the facts read off the certificates are the witnesses of `C06_nonvacuous` -/
theorem certOut_ok : certified (sysOut benign) 64 holds
    (fun c => (c.toList.any fun m => m.f.paid) && c.toList.any fun m => m.f.revealed) = true := by decide +kernel
theorem certIn_ok : certified (sysIn benign) 64 holds
    (fun c => (c.toList.any fun m => m.f.paid) && c.toList.any fun m => m.f.revealed) = true := by decide +kernel

/-- swap-out initiator: for every history (any length, any order of events, crashes and restarts) the
    key is never out while the claim payment succeeded or is still outstanding, and once it succeeded the
    swap only ever tries to claim with the preimage -/
theorem C06_partial_swap_out_sender : ∀ m, Reach (sysOut benign) m → holds m = true :=
  (certified_spec certOut_ok).1

/-- swap-in responder: same -/
theorem C06_partial_swap_in_receiver : ∀ m, Reach (sysIn benign) m → holds m = true :=
  (certified_spec certIn_ok).1

/-- non-vacuity: the certificates contain configurations in which the payment succeeded, and ones in
    which the key was revealed -/
theorem C06_nonvacuous :
    (certOut.toList.any fun m => m.f.paid) = true ∧ (certOut.toList.any fun m => m.f.revealed) = true ∧
    (certIn.toList.any fun m => m.f.paid) = true ∧ (certIn.toList.any fun m => m.f.revealed) = true := by
  have ho := (certified_spec certOut_ok).2
  have hi := (certified_spec certIn_ok).2
  rw [Bool.and_eq_true] at ho hi
  exact ⟨ho.1, ho.2, hi.1, hi.2⟩

end PsVerif.Props.C06
