import PsVerif.Proofs.Script
/-
C02  Opening output spendable only by preimage+taker, taker+maker, or maker after CSV.

Model: Model/Script.lean (the opening script as a structured program, evaluated under segwit-v0
consensus rules with abstract signature verdicts and an abstract SHA-256).
Tie: slice `script` — (i) the bytes of the real GetOpeningTxScript against `serialize (opening …)`,
(ii) the model's accept/reject against btcd's txscript engine on real transactions with real signatures
for witness stacks of every shape, sequences around the CSV and both tx versions.
-/
namespace PsVerif.Props.C02
open PsVerif PsVerif.Model.Script

/-- evaluation on a stack given top-first -/
def acceptsStack (c : Crypto) (tx : TxCtx) (prog : List Instr) (st : List Bytes) : Bool :=
  match run c tx prog st with
  | some [x] => truthy x
  | _ => false

theorem accepts_eq (c : Crypto) (tx : TxCtx) (prog : List Instr) (w : List Bytes) :
    accepts c tx prog w = acceptsStack c tx prog w.reverse := rfl

/-- what the CSV operand must satisfy (true for 60, 1008, 10080: `csv_operands`) -/
structure CsvOperand (csv : Nat) : Prop where
  num : numOf (scriptNum csv) = some csv
  truthy : truthy (scriptNum csv) = true

theorem csv_operands : CsvOperand 60 ∧ CsvOperand 1008 ∧ CsvOperand 10080 := by
  refine ⟨⟨by decide, by decide⟩, ⟨by decide, by decide⟩, ⟨by decide, by decide⟩⟩

/-! The script is a tree of four kinds of block.  For each, what it takes to be accepted from that block on;
    a stack too short, a malformed signature or a failed check is disposed of here, once. -/

/-- `<k> CHECKSIG NOTIF t ELSE e ENDIF rest`: the top element is a signature for `k` and `e ++ rest` is accepted on
    what lies below, or it is an invalid one and `t ++ rest` is -/
theorem acceptsStack_sig_notif (c : Crypto) (tx : TxCtx) (k : Bytes) (t e rest : List Instr) (st : List Bytes) :
    acceptsStack c tx (.push k :: .checksig :: .notif t e :: rest) st = true ↔
      ∃ x st', st = x :: st' ∧
        (c.checksig k x = .valid ∧ acceptsStack c tx (e ++ rest) st' = true ∨
         c.checksig k x = .invalid ∧ acceptsStack c tx (t ++ rest) st' = true) := by
  cases st with
  | nil => simp [acceptsStack, run_cons, step]
  | cons x st' =>
    simp only [List.cons.injEq, and_assoc, exists_and_left, exists_eq_left']
    cases h : c.checksig k x <;> simp [acceptsStack, run_cons, run_append, step, h, truthy]

/-- `SIZE <32> EQUALVERIFY SHA256 <h> EQUALVERIFY rest`: the top element is a 32-byte preimage of `h`; it is consumed -/
theorem acceptsStack_hashlock (c : Crypto) (tx : TxCtx) (h : Bytes) (rest : List Instr) (st : List Bytes) :
    acceptsStack c tx (.size :: .push [32] :: .equalverify :: .sha256 :: .push h :: .equalverify :: rest) st = true ↔
      ∃ p st', st = p :: st' ∧ p.length = 32 ∧ c.sha256 p = h ∧ acceptsStack c tx rest st' = true := by
  cases st with
  | nil => simp [acceptsStack, run_cons, step]
  | cons p st' =>
    have h32 := scriptNum_eq_singleton (b := 32) (by decide) (by decide)
    simp only [List.cons.injEq, and_assoc, exists_and_left, exists_eq_left']
    by_cases hl : p.length = 32 <;> by_cases hh : c.sha256 p = h <;>
      simp [acceptsStack, run_cons, step, h32, eq_comm (a := [32]), eq_comm (a := h), hl, hh]

/-- `<k> CHECKSIG` at the end: exactly one element, a signature for `k` (an invalid one leaves a false element) -/
theorem acceptsStack_sig (c : Crypto) (tx : TxCtx) (k : Bytes) (st : List Bytes) :
    acceptsStack c tx [.push k, .checksig] st = true ↔ ∃ s, st = [s] ∧ c.checksig k s = .valid := by
  cases st with
  | nil => simp [acceptsStack, run_cons, step]
  | cons s st' =>
    cases h : c.checksig k s <;> cases st' <;> simp [acceptsStack, run, step, h, truthy]

/-- `<csv> CHECKSEQUENCEVERIFY` at the end: nothing else on the stack (the operand stays, and is true) and BIP112 holds -/
theorem acceptsStack_csv (c : Crypto) (tx : TxCtx) {csv : Nat} (hc : CsvOperand csv) (st : List Bytes) :
    acceptsStack c tx [.push (scriptNum csv), .csv] st = true ↔ st = [] ∧ csvOk tx csv = true := by
  cases h : csvOk tx csv <;> cases st <;> simp [acceptsStack, run, step, hc.num, hc.truthy, h]

/-- the stacks (top first) the opening script accepts are exactly those of the three paths: preimage, cooperative, CSV -/
theorem C02_accepts_iff (c : Crypto) (tx : TxCtx) (maker taker hash : Bytes) (csv : Nat) (hc : CsvOperand csv)
    (st : List Bytes) :
    acceptsStack c tx (opening maker taker hash csv) st = true ↔
      (∃ b a p sT, st = [b, a, p, sT] ∧ c.checksig maker b = .invalid ∧ c.checksig maker a = .invalid ∧
          p.length = 32 ∧ c.sha256 p = hash ∧ c.checksig taker sT = .valid)
      ∨ (∃ a sM sT, st = [a, sM, sT] ∧ c.checksig maker a = .invalid ∧ c.checksig maker sM = .valid ∧
          c.checksig taker sT = .valid)
      ∨ (∃ sM, st = [sM] ∧ c.checksig maker sM = .valid ∧ csvOk tx csv = true) := by
  -- read the script block by block; what is left is to line up the nested alternatives with the three shapes
  simp only [opening, acceptsStack_sig_notif, acceptsStack_hashlock, acceptsStack_sig, acceptsStack_csv c tx hc,
    List.append_nil, List.nil_append, List.cons_append]
  constructor
  · rintro ⟨x, _, rfl, ⟨hx, rfl, hcsv⟩ | ⟨hx, y, _, rfl, ⟨hy, s, rfl, hs⟩ | ⟨hy, p, _, rfl, hl, hh, s, rfl, hs⟩⟩⟩
    · exact .inr (.inr ⟨x, rfl, hx, hcsv⟩)
    · exact .inr (.inl ⟨x, y, s, rfl, hx, hy, hs⟩)
    · exact .inl ⟨x, y, p, s, rfl, hx, hy, hl, hh, hs⟩
  · rintro (⟨b, a, p, sT, rfl, hb, ha, hl, hh, hs⟩ | ⟨a, sM, sT, rfl, ha, hm, hs⟩ | ⟨sM, rfl, hm, hcsv⟩)
    · exact ⟨b, _, rfl, .inr ⟨hb, a, _, rfl, .inr ⟨ha, p, _, rfl, hl, hh, sT, rfl, hs⟩⟩⟩
    · exact ⟨a, _, rfl, .inr ⟨ha, sM, _, rfl, .inl ⟨hm, sT, rfl, hs⟩⟩⟩
    · exact ⟨sM, _, rfl, .inl ⟨hm, rfl, hcsv⟩⟩

/-- and each of the three shapes is accepted -/
theorem C02_three_paths_work (c : Crypto) (tx : TxCtx) (maker taker hash : Bytes) (csv : Nat) (hc : CsvOperand csv) :
    (∀ b a p sT, c.checksig maker b = .invalid → c.checksig maker a = .invalid → p.length = 32 →
        c.sha256 p = hash → c.checksig taker sT = .valid →
        acceptsStack c tx (opening maker taker hash csv) [b, a, p, sT] = true) ∧
    (∀ a sM sT, c.checksig maker a = .invalid → c.checksig maker sM = .valid → c.checksig taker sT = .valid →
        acceptsStack c tx (opening maker taker hash csv) [a, sM, sT] = true) ∧
    (∀ sM, c.checksig maker sM = .valid → csvOk tx csv = true →
        acceptsStack c tx (opening maker taker hash csv) [sM] = true) := by
  have W := fun st => (C02_accepts_iff c tx maker taker hash csv hc st).mpr
  exact ⟨fun b a p sT hb ha hl hh ht => W _ (.inl ⟨b, a, p, sT, rfl, hb, ha, hl, hh, ht⟩),
    fun a sM sT ha hm ht => W _ (.inr (.inl ⟨a, sM, sT, rfl, ha, hm, ht⟩)),
    fun sM hm hcsv => W _ (.inr (.inr ⟨sM, rfl, hm, hcsv⟩))⟩

/-- corollary, in witness order (bottom first, as serialised in the transaction) -/
theorem C02_exact (c : Crypto) (tx : TxCtx) (maker taker hash : Bytes) (csv : Nat) (hc : CsvOperand csv)
    (w : List Bytes) (h : accepts c tx (opening maker taker hash csv) w = true) :
      (∃ sT p a b, w = [sT, p, a, b] ∧ c.checksig maker b = .invalid ∧ c.checksig maker a = .invalid ∧
          p.length = 32 ∧ c.sha256 p = hash ∧ c.checksig taker sT = .valid)
      ∨ (∃ sT sM a, w = [sT, sM, a] ∧ c.checksig maker a = .invalid ∧ c.checksig maker sM = .valid ∧
          c.checksig taker sT = .valid)
      ∨ (∃ sM, w = [sM] ∧ c.checksig maker sM = .valid ∧ csvOk tx csv = true) := by
  rw [accepts_eq, C02_accepts_iff c tx maker taker hash csv hc] at h
  rcases h with ⟨b, a, p, sT, hw, h⟩ | ⟨a, sM, sT, hw, h⟩ | ⟨sM, hw, h⟩
  · exact .inl ⟨sT, p, a, b, List.reverse_eq_iff.mp hw, h⟩
  · exact .inr (.inl ⟨sT, sM, a, List.reverse_eq_iff.mp hw, h⟩)
  · exact .inr (.inr ⟨sM, List.reverse_eq_iff.mp hw, h⟩)

/-- without the taker's valid signature only the third path is left -/
theorem C02_without_taker (c : Crypto) (tx : TxCtx) (maker taker hash : Bytes) (csv : Nat) (hc : CsvOperand csv)
    (w : List Bytes) (h : accepts c tx (opening maker taker hash csv) w = true)
    (hnt : ∀ s ∈ w, c.checksig taker s ≠ .valid) :
    ∃ sM, w = [sM] ∧ c.checksig maker sM = .valid ∧ csvOk tx csv = true := by
  rcases C02_exact c tx maker taker hash csv hc w h with ⟨sT, p, a, b, hw, _, _, _, _, hT⟩ | ⟨sT, sM, a, hw, _, _, hT⟩ | h3
  · exact absurd hT (hnt sT (by simp [hw]))
  · exact absurd hT (hnt sT (by simp [hw]))
  · exact h3

/-- no witness without the taker's valid signature succeeds unless the maker signs and the input's
    sequence commits to at least the CSV in blocks with transaction version ≥ 2 -/
theorem C02_without_taker_needs_csv (c : Crypto) (tx : TxCtx) (maker taker hash : Bytes) (csv : Nat)
    (hc : CsvOperand csv) (hcsvlt : csv < 65536) (w : List Bytes)
    (h : accepts c tx (opening maker taker hash csv) w = true)
    (hnt : ∀ s ∈ w, c.checksig taker s ≠ .valid) :
    ∃ sM, w = [sM] ∧ c.checksig maker sM = .valid ∧ tx.version ≥ 2 ∧ tx.sequence % 65536 ≥ csv := by
  obtain ⟨sM, hw, hM, hok⟩ := C02_without_taker c tx maker taker hash csv hc w h hnt
  obtain ⟨hv, _, _, hs⟩ := (csvOk_iff tx hcsvlt).mp hok
  exact ⟨sM, hw, hM, hv, hs⟩

-- non-vacuity: an environment in which all three paths exist
example : CsvOperand 1008 := csv_operands.2.1

/-- a field pushed with its length in front can be read back, whatever follows -/
theorem prefixed_inj {a b x y : Bytes} : a.length :: (a ++ x) = b.length :: (b ++ y) ↔ a = b ∧ x = y :=
  ⟨fun e => List.append_inj (List.cons.inj e).2 (List.cons.inj e).1, fun ⟨ha, hx⟩ => by rw [ha, hx]⟩

/-- the script bytes determine both keys, the hash and the CSV: two swaps with the same output script
    have the same parameters (used by C01: "the script built from both swap pubkeys, the payment hash and
    the chain's CSV") -/
theorem C02_script_injective (m t h m' t' h' : Bytes) (csv csv' : Nat) (hc : CsvOperand csv) (hc' : CsvOperand csv')
    (e : scriptBytes m t h csv = scriptBytes m' t' h' csv') : m = m' ∧ t = t' ∧ h = h' ∧ csv = csv' := by
  -- the bytes are fixed opcodes between four length-prefixed fields, the last being the script number of the CSV
  simp only [scriptBytes, pushNum, List.append_assoc, List.cons_append, List.nil_append, List.cons_inj_right,
    prefixed_inj] at e
  obtain ⟨hm, -, hh, ht, hn, -⟩ := e
  exact ⟨hm, ht, hh, Option.some.inj (by rw [← hc.num, ← hc'.num, hn])⟩

end PsVerif.Props.C02
