import PsVerif.Gen.LockOrder
import PsVerif.Gen.ChanSends
/-
C18  Event handling never deadlocks.

Three parts.
(1) A general theorem about mutual exclusion locks: if every thread only ever waits for a lock whose rank is
    strictly above the ranks of all locks it holds, no set of threads can be deadlocked.
(2) The lock nesting of the program, REGENERATED from the source on every run (Gen/LockOrder.lean:
    go/ast lock regions combined with the x/tools call graph of both daemons, VTA, so that interface calls
    and the watcher callbacks are followed): every "B is acquired while A is held" edge, with a call chain.
    The expectations: every lock expression was named, and every edge goes up in the rank order below —
    in particular nothing is acquired while a watcher lock is held (callbacks run outside), and the per-swap
    mutex is never re-acquired below itself.
(3) Channel sends (Gen/ChanSends.lean, go/ast): the complete list of send statements of the program with the way
    each can block; the block dispatcher's sends to the observers are each the business of their own goroutine.
What this does not cover: blocking on channel receives and condition variables, and locks inside dependencies
(bbolt, gRPC, the Lightning clients); monitor C18 runs the real watchers and service concurrently with
watchdogs for that.
-/
namespace PsVerif.Props.C18
open PsVerif.Gen

/-- a lock instance: (rank of its class, which instance) -/
abbrev LockId := Nat × Nat

structure Thread where
  held : List LockId
  want : Option LockId
  deriving Repr

/-- the thread waits only for locks ranked strictly above everything it holds -/
def Ordered (t : Thread) : Prop := ∀ w, t.want = some w → ∀ h ∈ t.held, h.1 < w.1

/-- the thread waits for a lock that some thread of the system holds -/
def Blocked (ts : List Thread) (t : Thread) : Prop := ∃ w, t.want = some w ∧ ∃ u ∈ ts, w ∈ u.held

/-- every thread is blocked -/
def Deadlock (ts : List Thread) : Prop := ts ≠ [] ∧ ∀ t ∈ ts, Blocked ts t

def wantRank (t : Thread) : Nat := match t.want with | some w => w.1 | none => 0

theorem exists_max {α : Type} (f : α → Nat) {l : List α} (h : l ≠ []) : ∃ a ∈ l, ∀ b ∈ l, f b ≤ f a := by
  obtain ⟨m, hm⟩ := Option.isSome_iff_exists.mp (List.isSome_max?_of_ne_nil (l := l.map f) (by simpa using h))
  obtain ⟨hmem, hmax⟩ := List.max?_eq_some_iff.mp hm
  obtain ⟨a, ha, rfl⟩ := List.mem_map.mp hmem
  exact ⟨a, ha, fun b hb => hmax _ (List.mem_map_of_mem hb)⟩

/-- **no deadlock under ordered locking** -/
theorem no_deadlock (ts : List Thread) (ho : ∀ t ∈ ts, Ordered t) : ¬ Deadlock ts := by
  intro ⟨hne, hall⟩
  -- a thread whose wanted lock has the highest rank is blocked by a thread that wants a lock ranked higher still
  obtain ⟨t0, ht0, hmax⟩ := exists_max wantRank hne
  obtain ⟨w0, hw0, u, hu, hheld⟩ := hall t0 ht0
  obtain ⟨w', hw', _⟩ := hall u hu
  have h1 : w0.1 < w'.1 := ho u hu w' hw' w0 hheld
  have h2 : wantRank u ≤ wantRank t0 := hmax u hu
  simp only [wantRank, hw0, hw'] at h2
  omega

/-- rank of the lock classes: the LND message listener runs the handlers under its mutex (top of the order);
    the per-swap mutex comes next; every other lock is a leaf (nothing is acquired while it is held) -/
def rank (c : String) : Nat :=
  if c = "lnd.MessageListener" then 0
  else if c = "swap.SwapStateMachine.mutex" then 1
  else 2

/-- every lock expression in the source was resolved to a class -/
theorem C18_all_locks_named : lockUnresolved = [] := by decide

/-- every nesting the extractor finds goes strictly up in `rank` -/
theorem C18_edges_ranked : lockEdges.all (fun e => decide (rank e.1 < rank e.2.1)) = true := by decide +kernel

/-- in particular: nothing is acquired while a watcher / subscriber lock or the service registry lock is held
    (the callbacks into the swaps run outside these locks), and the per-swap mutex is not acquired below itself -/
theorem C18_no_callback_under_watcher_lock :
    lockEdges.all (fun e =>
      e.1 != "txwatcher.BlockchainRpcTxWatcher" && e.1 != "electrum.liquidBlockHeaderSubscriber.mu" &&
      e.1 != "lwk.electrumTxWatcher.mu" && e.1 != "lnd.TxWatcher" && e.1 != "swap.SwapService" &&
      !(e.1 == "swap.SwapStateMachine.mutex" && e.2.1 == "swap.SwapStateMachine.mutex")) = true := by decide +kernel

/-- a thread of the program: what it holds and what it waits for are lock classes with instance numbers, and
    each (held, wanted) pair is one of the extracted nestings -/
structure PThread where
  held : List (String × Nat)
  want : Option (String × Nat)

def FollowsEdges (t : PThread) : Prop :=
  ∀ w, t.want = some w → ∀ h ∈ t.held, ∃ e ∈ lockEdges, e.1 = h.1 ∧ e.2.1 = w.1

def toThread (t : PThread) : Thread :=
  ⟨t.held.map fun h => (rank h.1, h.2), t.want.map fun w => (rank w.1, w.2)⟩

theorem ordered_of_follows (t : PThread) (h : FollowsEdges t) : Ordered (toThread t) := by
  intro w hw hh hmem
  obtain ⟨pw, hwant, rfl⟩ := Option.map_eq_some_iff.mp hw
  obtain ⟨ph, hph, rfl⟩ := List.mem_map.mp hmem
  obtain ⟨e, he, h1, h2⟩ := h pw hwant ph hph
  simpa [← h1, ← h2] using List.all_eq_true.mp C18_edges_ranked e he

/-- **C18 (locks)**: threads whose nested acquisitions are among the nestings extracted from the program can
    never all wait for each other -/
theorem C18_no_lock_deadlock (ts : List PThread) (h : ∀ t ∈ ts, FollowsEdges t) :
    ¬ Deadlock (ts.map toThread) := by
  apply no_deadlock
  intro t ht
  obtain ⟨p, hp, rfl⟩ := List.mem_map.mp ht
  exact ordered_of_follows p (h p hp)

-- non-vacuity: the message handler (swap mutex held, registering a CSV watch) and the block handler
example : FollowsEdges ⟨[("swap.SwapStateMachine.mutex", 7)], some ("txwatcher.BlockchainRpcTxWatcher", 0)⟩ := by
  intro w hw h hh
  simp at hw hh
  subst hw; subst hh
  have : lockEdges.any (fun e => e.1 == "swap.SwapStateMachine.mutex" && e.2.1 == "txwatcher.BlockchainRpcTxWatcher") = true := by
    decide +kernel
  obtain ⟨e, he, hp⟩ := List.any_eq_true.mp this
  simp only [Bool.and_eq_true, beq_iff_eq] at hp
  exact ⟨e, he, hp.1, hp.2⟩
example : lockEdges.length > 10 := by decide

/-- every channel send of the program, and how it can block its goroutine -/
theorem C18_channel_sends : chanSends = [
    ("clightning/clightning.go", "onInit", "cl.initChan", "plain"),
    ("cmd/peerswaplnd/peerswapd/main.go", "run", "shutdown", "plain"),
    ("lnd/txwatcher.go", "addTxWatcher", "confChan", "plain"),
    ("lnd/txwatcher.go", "addTxWatcher", "errChan", "plain"),
    ("lnd/txwatcher.go", "addTxWatcher", "errChan", "plain"),
    ("lwk/electrumtxwatcher.go", "StartWatchingTxs", "notify", "select-default"),
    ("peerswaprpc/server.go", "Stop", "p.sigchan", "plain"),
    ("peersync/message_bus.go", "publish", "ch", "select-default"),
    ("txwatcher/rpctxwatcher.go", "AddWaitForConfirmationTx", "newBlock", "plain"),
    ("txwatcher/rpctxwatcher.go", "StartBlockWatcher", "s.newBlockChan", "plain"),
    ("txwatcher/rpctxwatcher.go", "StartWatchingTxs", "obs.blockChan", "go")] := rfl

/-- the loop that hands a new block to every confirmation observer never waits for one of them: each hand-over is
    a goroutine of its own (an observer that is busy in its callback, or gone, cannot stop block handling and with
    it the CSV reports of other swaps); the publisher of the peer-sync bus never waits for a subscriber -/
theorem C18_dispatchers_do_not_wait :
    (chanSends.filter (fun s => s.2.1 == "StartWatchingTxs" || s.2.1 == "publish")).all (fun s => s.2.2.2 == "go" || s.2.2.2 == "select-default") = true := by
  decide +kernel

end PsVerif.Props.C18
