import PsVerif.Gen.Guarded
/-
C19  No data races between concurrent events, RPC calls and watchers.

What a proof can carry here is the lock discipline of the structures that own a mutex: the facts
`Gen.guardedAccesses` are REGENERATED from the source on every run (go/ast: every access to a guarded field
through the method receiver, with the locks held at that point by the same walk as the lock-order facts of
C18), and the theorems are the expectations: every access holds the guarding lock, except the listed ones.
The races themselves are a runtime matter: the check runs the concurrent entry points of the real code from
a binary built with Go's race detector (see the evidence) and reports every race between accesses in
peerswap code.  The swap data (`SwapData`, reached through action parameters, not through a receiver) is
outside the syntactic facts and covered only by the detector.
-/
namespace PsVerif.Props.C19
open PsVerif.Gen

/-- accesses that do not hold the lock themselves, and why that is right:
    `reloadFile` is the body of ReloadFile for callers that already hold the policy mutex (the exported
    ReloadFile locks and delegates; every other caller is a locked operation);
    the two LWK registration functions read callbacks that are set once, before the watcher is started -/
def allowedUnguarded : List (String × String × String) :=
  [("policy.Policy", "path", "reloadFile"),
   ("lwk.electrumTxWatcher", "confirmationCallback", "AddWaitForConfirmationTx"),
   ("lwk.electrumTxWatcher", "csvCallback", "AddWaitForCsvTx")]

/-- **lock discipline**: every other access to a guarded field is made with its mutex held -/
theorem C19_guarded :
    guardedAccesses.all (fun a => a.held || allowedUnguarded.contains (a.owner, a.field, a.fn)) = true := by
  decide +kernel

/-- the accesses selected by a test that none of the listed exceptions passes hold their lock -/
theorem all_held_of_filter (p : GuardedAccess → Bool)
    (hp : allowedUnguarded.all (fun x => !p ⟨x.1, x.2.1, x.2.2, false⟩) = true) :
    (guardedAccesses.filter p).all (·.held) = true := by
  refine List.all_eq_true.mpr fun a ha => ?_
  obtain ⟨hmem, hpa⟩ := List.mem_filter.mp ha
  have hg := List.all_eq_true.mp C19_guarded a hmem
  obtain ⟨owner, field, fn, held⟩ := a
  cases held with
  | true => rfl
  | false =>
    -- an access without its lock is a listed exception, and `p` rejects those
    have := List.all_eq_true.mp hp _ (by simpa using hg)
    simp [hpa] at this

/-- the policy: every exported reader and every operation works under the package mutex (the three functions
    that used to read or replace the policy without it are in the list with `held = true`) -/
theorem C19_policy_locked :
    (guardedAccesses.filter (fun a => a.owner == "policy.Policy" && a.fn != "reloadFile")).all (·.held) = true
    ∧ guardedAccesses.any (fun a => a.fn == "NewSwapsAllowed" && a.held) = true
    ∧ guardedAccesses.any (fun a => a.fn == "String" && a.held) = true :=
  ⟨all_held_of_filter _ (by decide +kernel), by decide +kernel, by decide +kernel⟩

/-- the RPC watcher's three maps, in every method that touches them (the block dispatcher included) -/
theorem C19_rpc_watcher_maps_locked :
    (guardedAccesses.filter (fun a => a.owner == "txwatcher.BlockchainRpcTxWatcher")).all (·.held) = true
    ∧ guardedAccesses.any (fun a => a.owner == "txwatcher.BlockchainRpcTxWatcher" && a.field == "observerLoopList" && a.fn == "StartWatchingTxs") = true :=
  ⟨all_held_of_filter _ (by decide +kernel), by decide +kernel⟩

/-- the swap registry, the peersync request table, the Electrum observer list, the LND watcher's bookkeeping -/
theorem C19_other_structures_locked :
    (guardedAccesses.filter (fun a => a.owner == "swap.SwapService" || a.owner == "peersync.poller" ||
      a.owner == "electrum.liquidBlockHeaderSubscriber" || a.owner == "lnd.TxWatcher" || a.owner == "messages.Manager")).all (·.held) = true :=
  all_held_of_filter _ (by decide +kernel)

example : guardedAccesses.length > 40 := by decide

end PsVerif.Props.C19
