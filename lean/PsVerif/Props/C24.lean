import PsVerif.Model.Route
import PsVerif.Proofs.Route
/-
C24  Swap payments are a single HTLC over the swap channel to the swap peer.

Model: `clnRoute` (clightning.buildDirectClaimRoute), `lndRequest`
(lnd.buildDirectClaimPaymentRequest), `clnStyle`/`lndStyle` (lightning.Scid).
Tie: differential slice `route` (real builders vs. these definitions).
-/
namespace PsVerif.Props.C24
open PsVerif PsVerif.Model

/-- CLN: whenever a route is built it is exactly one hop, to the invoice's payee, over the given
    channel in `x` spelling, for the invoice's exact amount, direction 0. -/
theorem C24_cln_single_hop (payee : String) (amt : Nat) (cltv : Int) (scid : String) (limit : Nat)
    (r : List ClnHop) (h : clnRoute payee amt cltv scid limit = .ok r) :
    r = [⟨payee, clnStyle scid, amt, clnDelay cltv, 0⟩] :=
  (clnRoute_ok h).1

/-- either spelling of the channel id yields the same `x`-separated id -/
theorem C24_cln_spelling (s : String) : clnStyle (lndStyle s) = clnStyle s := by
  unfold clnStyle lndStyle
  rw [String.toList_ofList, List.map_map]
  -- character by character: an `x` turned into `:` becomes `x` again, nothing else is touched by the first map
  congr 2
  funext c
  by_cases h : c = 'x'
  · subst h; rfl
  · simp only [Function.comp, if_neg h]

/-- the channel id put into the route never contains `:` -/
theorem C24_cln_no_colon (s : String) : ':' ∉ (clnStyle s).toList := by
  unfold clnStyle
  simp only [String.toList_ofList, List.mem_map, not_exists, not_and]
  intro c _ h
  split at h
  · exact absurd h (by decide)
  · contradiction

/-- LND: a request is refused when the invoice's destination is not the channel's peer -/
theorem C24_lnd_refuses_other_destination (payreq dest remote : String) (chanId : Nat) (cltv : Int)
    (pad limit : Nat) (h : dest ≠ remote) :
    lndRequest payreq dest remote chanId cltv pad limit = .error .destMismatch := by
  unfold lndRequest
  rw [if_pos h]

/-- LND: whenever a request is built it pays that very payment request (no amount override), with one
    part, restricted to the swap channel, and the destination is the channel's peer -/
theorem C24_lnd_single_htlc (payreq dest remote : String) (chanId : Nat) (cltv : Int)
    (pad limit : Nat) (q : LndReq)
    (h : lndRequest payreq dest remote chanId cltv pad limit = .ok q) :
    dest = remote ∧ q.paymentRequest = payreq ∧ q.outgoingChanIds = [chanId] ∧ q.maxParts = 1
      ∧ q.amt = 0 ∧ q.amtMsat = 0 := by
  obtain ⟨hd, hq, -⟩ := lndRequest_ok h
  rw [hq]
  exact ⟨hd, rfl, rfl, rfl, rfl, rfl⟩

-- non-vacuity: both builders do produce payments
example : (clnRoute "02aa" 1000 29 "1:2:3" 32).toOption.isSome = true := by decide
example : (lndRequest "lnbc1" "02aa" "02aa" 7 29 3 32).toOption.isSome = true := by decide

end PsVerif.Props.C24
