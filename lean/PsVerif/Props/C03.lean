import PsVerif.Model.Spend
import PsVerif.Props.C01
import PsVerif.Props.C02
import PsVerif.Gen.Consts
import PsVerif.Gen.Adapters
import PsVerif.Proofs.Wrap
/-
C03  Claim, coop and CSV-refund transactions the node builds are valid and pay it.

Model: Model/Spend.lean (`findVoutBtc`, `findVoutLq`, `buildBtc`, `buildLq`, `witnessOf`, `bip68Ok`) on top of the
script interpreter of C02 and the validators of C01.
Tie: slice `spend` — the REAL lnd.Client wallet adapter (over fake gRPC clients) and the REAL LiquidOnChain (over a
fake wallet) build the three kinds of spend for generated opening transactions; each Bitcoin result is run through
btcd's script engine with the standard verification flags, each Liquid result is checked by Elements sighash + ECDSA
verification and unblinding; index, sequence, paid value, witness shape and the engine's verdict are compared with
what the model computes (the verdict by the interpreter C02 is proved about).  The CLN adapter has no offline
back-end: Gen/Adapters (go/ast facts) shows it makes the same calls with the same arguments as the LND adapter.
-/
namespace PsVerif.Props.C03
open PsVerif PsVerif.Gen PsVerif.Model.Script PsVerif.Model.OpeningCheck PsVerif.Model.Spend PsVerif.Props.C02

/-- the index `findIdx?` reports is that of the element `find?` returns: spender and validator, which search with the
    same predicate, look at the same output -/
theorem find?_of_findIdx? {α : Type} {p : α → Bool} {l : List α} {i : Nat} (h : l.findIdx? p = some i) :
    ∃ a, l[i]? = some a ∧ l.find? p = some a := by
  have hi := (List.findIdx?_eq_some_iff_getElem.mp h).1
  refine ⟨l[i], List.getElem?_eq_getElem hi, ?_⟩
  rw [List.find?_eq_bind_findIdx?_getElem?, h]
  exact List.getElem?_eq_getElem hi

/-- what a successful `buildBtc` found, checked and built -/
theorem buildBtc_eq_some {S A : Type} [DecidableEq S] {kind : Kind} {amount : Nat} {want : S}
    {outs : List (BtcOut S)} {csv fee : Nat} {addr : A} {own other pre : Bytes} {tx : SpendTx A}
    (h : buildBtc kind amount want outs csv fee addr own other pre = some tx) :
    ∃ i o, outs[i]? = some o ∧ o.value = wrapI64 (amount : Int) ∧ o.script = want ∧
      validateBtc amount want outs = true ∧ wrapI64 (fee : Int) < wrapI64 (o.value - 200) ∧
      tx = { version := 2, prevIndex := i, sequence := seqOf kind csv,
             outputs := [(wrapI64 (wrapI64 (o.value - 200) - wrapI64 (fee : Int)), addr)],
             witness := witnessOf kind own other pre, sighashAmount := wrapI64 (amount : Int) } := by
  unfold buildBtc at h
  cases hi : findVoutBtc amount want outs with
  | none => simp [hi] at h
  | some i =>
    obtain ⟨o, ho, hf⟩ := find?_of_findIdx? hi
    have hp := List.find?_some hf
    simp only [Bool.and_eq_true, beq_iff_eq, decide_eq_true_eq] at hp
    simp only [hi, ho, Option.ite_none_left_eq_some, Option.some.injEq, Int.not_le] at h
    exact ⟨i, o, ho, hp.1, hp.2, congrArg Option.isSome hf, h.1, h.2.symm⟩

/-- the spent output is an output of the amount to the wanted script, and it is one the validator accepts the
    transaction for -/
theorem C03_btc_spends_validated {S A : Type} [DecidableEq S] (kind : Kind) (amount : Nat) (want : S)
    (outs : List (BtcOut S)) (csv fee : Nat) (addr : A) (own other pre : Bytes) (tx : SpendTx A)
    (h : buildBtc kind amount want outs csv fee addr own other pre = some tx) :
    (∃ o, outs[tx.prevIndex]? = some o ∧ o.value = wrapI64 (amount : Int) ∧ o.script = want) ∧
    validateBtc amount want outs = true := by
  obtain ⟨i, o, ho, hv, hs, hval, -, rfl⟩ := buildBtc_eq_some h
  exact ⟨⟨o, ho, hv, hs⟩, hval⟩

/-- shape of the transaction: version 2, one output (to the address the wallet handed out), the value is the swap
    amount minus 200 sat minus the fee (all of it miner fee: there is no other output) and is POSITIVE (the
    hypothesis `fee + 200 ≤ amount` this theorem needed at first marked a defect: a fee that eats the whole output
    gave a transaction with a negative output; repaired in /repo, the builder now refuses), the signature commits
    to the amount of the spent output, the sequence is the CSV exactly for the refund -/
theorem C03_btc_shape {S A : Type} [DecidableEq S] (kind : Kind) (amount : Nat) (want : S)
    (outs : List (BtcOut S)) (csv fee : Nat) (addr : A) (own other pre : Bytes) (tx : SpendTx A)
    (h : buildBtc kind amount want outs csv fee addr own other pre = some tx)
    (ha : amount < 9223372036854775808) (hfb : fee < 9223372036854775808) :
    tx.version = 2 ∧ tx.outputs = [((amount : Int) - 200 - (fee : Int), addr)] ∧ 0 < (amount : Int) - 200 - (fee : Int) ∧
    tx.sighashAmount = (amount : Int) ∧
    tx.sequence = seqOf kind csv ∧ tx.witness = witnessOf kind own other pre := by
  obtain ⟨i, o, -, hv, -, -, hfee, rfl⟩ := buildBtc_eq_some h
  -- nothing wraps: the amount, the amount less 200 and the fee are int64 values and so, the fee being the smaller,
  -- is their difference
  simp (disch := omega) only [hv, wrapI64_eq] at hfee
  simp (disch := omega) only [hv, wrapI64_eq, true_and, and_true]
  omega

/-- the witness the node attaches satisfies the opening script under the interpreter of C02, for each kind, in
    every cryptographic environment in which the node's own signature (and for coop the peer's) verifies, the
    empty element is an invalid signature, and the preimage is the 32-byte preimage of the script's hash -/
theorem C03_witness_accepted (c : Crypto) (maker taker hash : Bytes) (csv : Nat) (hc : CsvOperand csv)
    (hcsv : csv < 65536) (kind : Kind) (own other pre : Bytes)
    (hempty : c.checksig maker [] = .invalid)
    (hown : match kind with
      | .preimage => c.checksig taker own = .valid ∧ pre.length = 32 ∧ c.sha256 pre = hash
      | .csv => c.checksig maker own = .valid
      | .coop => c.checksig maker own = .valid ∧ c.checksig taker other = .valid) :
    accepts c ⟨2, seqOf kind csv⟩ (opening maker taker hash csv) (witnessOf kind own other pre) = true := by
  have W := C02_three_paths_work c ⟨2, seqOf kind csv⟩ maker taker hash csv hc
  rw [accepts_eq]
  cases kind with
  | preimage =>
    obtain ⟨h1, h2, h3⟩ := hown
    exact W.1 [] [] pre own hempty hempty h2 h3 h1
  | coop =>
    obtain ⟨h1, h2⟩ := hown
    exact W.2.1 [] own other hempty h1 h2
  | csv =>
    -- version 2, and the sequence is the CSV itself: enabled, counting blocks, and not below the CSV
    obtain ⟨he, hb, hm⟩ := flags_of_lt hcsv
    exact W.2.2 own hown ((csvOk_iff _ hcsv).mpr ⟨Nat.le_refl 2, he, hb, Nat.le_of_eq hm.symm⟩)

/-- BIP68 for a transaction of version ≥ 2 whose sequence is enabled and counts blocks: the count is what it demands -/
theorem bip68Ok_iff {version sequence : Nat} (depth : Nat) (hv : 2 ≤ version)
    (he : sequence / 2147483648 % 2 = 0) (hb : sequence / 4194304 % 2 = 0) :
    bip68Ok version sequence depth = true ↔ sequence % 65536 ≤ depth := by
  rw [bip68Ok, if_neg (Nat.not_lt.mpr hv), he, hb, if_neg (by decide), if_neg (by decide), decide_eq_true_iff]

/-- the refund transaction the node builds (version 2, sequence = CSV) can be mined exactly from the block in
    which the opening output is CSV blocks deep (BIP68), not before -/
theorem C03_refund_exactly_after_csv (csv depth : Nat) (hcsv : csv < 65536) :
    bip68Ok 2 csv depth = true ↔ csv ≤ depth := by
  obtain ⟨he, hb, hm⟩ := flags_of_lt hcsv
  rw [bip68Ok_iff depth (Nat.le_refl 2) he hb, hm]

/-- and no other transaction spends the output without the taker's signature earlier: whatever witness is
    accepted without a valid taker signature forces a version ≥ 2 input whose sequence makes BIP68 demand a depth
    of at least the CSV -/
theorem C03_no_refund_before_csv (c : Crypto) (tx : TxCtx) (maker taker hash : Bytes) (csv : Nat)
    (hc : CsvOperand csv) (hcsv : csv < 65536) (w : List Bytes)
    (h : accepts c tx (opening maker taker hash csv) w = true)
    (hnt : ∀ s ∈ w, c.checksig taker s ≠ .valid) (hseq : tx.sequence < 4294967296)
    (depth : Nat) (hb : bip68Ok tx.version tx.sequence depth = true)
    (hflags : csvOk tx csv = true) : csv ≤ depth := by
  -- the script leaves only the CSV path, whose BIP112 check fixes version and flags of the sequence BIP68 then reads
  obtain ⟨_, _, _, hok⟩ := C02_without_taker c tx maker taker hash csv hc w h hnt
  obtain ⟨hv, he, hbl, hs⟩ := (csvOk_iff tx hcsv).mp hok
  exact Nat.le_trans hs ((bip68Ok_iff depth hv he hbl).mp hb)

/-- the spent output is the one `ValidateTx` judges (same search, same checks) -/
theorem C03_lq_spends_validated {S A : Type} [DecidableEq S] (kind : Kind) (amount : Nat) (want : S)
    (outs : List (LqOut S)) (csv fee : Nat) (addr : A) (own other pre : Bytes) (tx : SpendTx (Option A))
    (h : buildLq kind amount want outs csv fee addr own other pre = some tx) :
    (∃ o u, outs[tx.prevIndex]? = some o ∧ o.script = want ∧ o.unblind = some u ∧ u.assetIsPolicy = true ∧ u.value = amount ∧
      fee < amount ∧ fee ≠ 0 ∧
      tx = { version := 2, prevIndex := tx.prevIndex, sequence := seqOf kind csv,
             outputs := [(((wrapU64 (u.value + 18446744073709551616 - fee) : Nat) : Int), some addr), ((fee : Int), none)],
             witness := witnessOf kind own other pre, sighashAmount := (u.value : Int) }) ∧
    validateLq amount want outs = true := by
  unfold buildLq at h
  cases hi : findVoutLq want outs with
  | none => simp [hi] at h
  | some i =>
    obtain ⟨o, ho, hf⟩ := find?_of_findIdx? hi
    cases hu : o.unblind with
    | none => simp [hi, ho, hu] at h
    | some u =>
      simp only [hi, ho, hu, Option.ite_none_left_eq_some, Option.some.injEq] at h
      obtain ⟨hf0, hok, hfee, rfl⟩ := h
      simp only [lqOutputOk, Bool.not_eq_false, Bool.and_eq_true, beq_iff_eq] at hok
      obtain ⟨⟨hasset, hshown⟩, hval⟩ := hok
      exact ⟨⟨o, u, ho, by simpa using List.find?_some hf, hu, hasset, hval, by omega, hf0, rfl⟩,
        (PsVerif.Props.C01.validateLq_iff amount want outs).mpr ⟨o, u, hf, hu, hasset, hshown, hval⟩⟩

/-- two outputs: the unblinded amount minus the fee to the wallet's address, and the explicit fee output; the
    signature commits to the spent output -/
theorem C03_lq_shape {S A : Type} [DecidableEq S] (kind : Kind) (amount : Nat) (want : S)
    (outs : List (LqOut S)) (csv fee : Nat) (addr : A) (own other pre : Bytes) (tx : SpendTx (Option A))
    (h : buildLq kind amount want outs csv fee addr own other pre = some tx) (ha : amount < 18446744073709551616) :
    fee < amount ∧ tx.version = 2 ∧ tx.outputs = [(((amount - fee : Nat) : Int), some addr), ((fee : Int), none)] ∧
    tx.sequence = seqOf kind csv ∧ tx.witness = witnessOf kind own other pre ∧
    tx.sighashAmount = (amount : Int) := by
  obtain ⟨⟨o, u, -, -, -, -, hval, hlt, -, htx⟩, -⟩ := C03_lq_spends_validated kind amount want outs csv fee addr own other pre tx h
  rw [htx, hval, wrapU64_add_sub (Nat.le_of_lt hlt) ha]
  exact ⟨hlt, rfl, rfl, rfl, rfl, rfl⟩

/-- the CSV values of the node are script operands for which all of the above applies -/
theorem C03_csv_values : ∀ ch ∈ [Gen.Chain.btc, Gen.Chain.lbtc], ∀ v ∈ [6, 7], ∀ p, timelockPolicy ch v = some p →
    CsvOperand p.csv ∧ p.csv < 65536 := by
  intro ch hch v hv p hp
  simp only [List.mem_cons, List.mem_nil_iff, or_false] at hch hv
  obtain ⟨h60, h1008, h10080⟩ := csv_operands
  rcases hch with rfl | rfl <;> rcases hv with rfl | rfl <;> cases hp <;> exact ⟨‹_›, by decide⟩

def callsOf (a : String) : List (String × String × List String × List String × Bool) :=
  (adapterCalls.filter (·.adapter == a)).map fun c => (c.method, c.callee, c.args, c.lhs, c.errChecked)

/-- the CLN adapter (not executable offline) makes the same deciding calls with the same arguments, results and
    error checks as the LND adapter (executed by the `spend` / `openmsg` slices and the monitors) -/
theorem C03_cln_same_as_lnd : callsOf "cln" = callsOf "lnd" := by decide +kernel

def expectedSpendCalls : List (String × String × List String × List String × Bool) := [
  ("CreatePreimageSpendingTransaction", "GetVoutAndVerify", ["claimParams.OpeningTxHex", "swapParams"], ["_", "vout", "err"], true),
  ("CreatePreimageSpendingTransaction", "PrepareSpendingTransaction", ["swapParams", "claimParams", "ADDR", "vout", "0", "0"], ["tx", "sigHash", "redeemScript", "err"], true),
  ("CreatePreimageSpendingTransaction", "claimParams.Signer.Sign", ["sigHash"], ["sigBytes", "err"], true),
  ("CreatePreimageSpendingTransaction", "MakePreimageFromStr", ["claimParams.Preimage"], ["preimage", "err"], true),
  ("CreatePreimageSpendingTransaction", "GetPreimageWitness", ["sigBytes.Serialize()", "preimage[:]", "redeemScript"], ["tx.TxIn[0].Witness"], false),
  ("CreateCsvSpendingTransaction", "GetVoutAndVerify", ["claimParams.OpeningTxHex", "swapParams"], ["_", "vout", "err"], true),
  ("CreateCsvSpendingTransaction", "PrepareSpendingTransaction", ["swapParams", "claimParams", "ADDR", "vout", "onchain.BitcoinCsv", "0"], ["tx", "sigHash", "redeemScript", "err"], true),
  ("CreateCsvSpendingTransaction", "claimParams.Signer.Sign", ["sigHash"], ["sigBytes", "err"], true),
  ("CreateCsvSpendingTransaction", "GetCsvWitness", ["sigBytes.Serialize()", "redeemScript"], ["tx.TxIn[0].Witness"], false),
  ("CreateCoopSpendingTransaction", "GetRefundFee", [], ["refundFee", "err"], true),
  ("CreateCoopSpendingTransaction", "GetVoutAndVerify", ["claimParams.OpeningTxHex", "swapParams"], ["_", "vout", "err"], true),
  ("CreateCoopSpendingTransaction", "PrepareSpendingTransaction", ["swapParams", "claimParams", "ADDR", "vout", "0", "refundFee"], ["spendingTx", "sigHashBytes", "redeemScript", "err"], true),
  ("CreateCoopSpendingTransaction", "takerSigner.Sign", ["sigHashBytes[:]"], ["takerSig", "err"], true),
  ("CreateCoopSpendingTransaction", "claimParams.Signer.Sign", ["sigHashBytes[:]"], ["makerSig", "err"], true),
  ("CreateCoopSpendingTransaction", "GetCooperativeWitness", ["takerSig.Serialize()", "makerSig.Serialize()", "redeemScript"], ["spendingTx.TxIn[0].Witness"], false)]

/-- what `buildBtc` assumes of the adapters: the index found by GetVoutAndVerify on the opening transaction goes
    into PrepareSpendingTransaction (error checked first), the sequence argument is BitcoinCsv only for the refund,
    the prepared fee only for coop, the witness builder matches the kind with the taker's signature first -/
theorem C03_adapter_calls : (callsOf "lnd").filter (fun c => c.1 != "CreateOpeningTransaction") = expectedSpendCalls := by decide +kernel

-- non-vacuity
example : (buildBtc .csv 100000 "w" [⟨100000, "change"⟩, ⟨100000, "w"⟩] 1008 600 "addr" [5] [] []).map (fun t => (t.prevIndex, t.sequence, t.outputs))
    = some (1, 1008, [(99200, "addr")]) := by decide
example : (buildLq .preimage 100000 "w" [⟨"x", none, true, false, false⟩, ⟨"w", some ⟨true, 100000⟩, true, false, true⟩] 60 500 "addr" [5] [] []).map
    (fun t => (t.prevIndex, t.sequence, t.outputs)) = some (1, 0, [(99500, some "addr"), (500, none)]) := by decide

end PsVerif.Props.C03
