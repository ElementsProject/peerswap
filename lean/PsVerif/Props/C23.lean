import PsVerif.Gen.Tables
import PsVerif.Gen.Msgs
/-
C23  Secrets leave the node only as the taker's per-swap key in coop_close.

Model: the GENERATED source facts `Gen.msgFields` / `Gen.sendPayloads` (go/ast over swap/*.go on every
run): every message literal the package builds, field by field, with the source expression and the verdict
of the extractor's taint analysis (secret sources: PrivkeyBytes, GetPrivkey() not followed by .PubKey(),
anything named *preimage* / *privkey*, GetPreimage(); local variables assigned from tainted expressions
are tainted, to a fixpoint), and the generated state tables `Gen.table`.
The theorems are the expectations about those facts; the dynamic side is monitor C23, which scans every
byte the real machines hand to the messenger, in every scenario family, for every secret the node holds.
What the technique cannot carry: the taint rules are syntactic (soundness of the extractor is trusted, not
proved), and the contents of invoices are produced by the Lightning node (a BOLT11 invoice carries the
payment hash, not the preimage — outside the model).
-/
namespace PsVerif.Props.C23
open PsVerif.Gen

/-- the only message fields fed from secret material: the two invoice strings (built by the Lightning node
    from a preimage: they carry its hash) and the private key in the coop_close built by
    TakerSendPrivkeyAction -/
theorem C23_secret_fields :
    (msgFields.filter (·.secret)).map (fun f => (f.fn, f.msg, f.field)) =
      [("CreateAndBroadcastOpeningTransaction.Execute", "OpeningTxBroadcastedMessage", "Payreq"),
       ("CreateSwapOutFromRequestAction.Execute", "SwapOutAgreementMessage", "Payreq"),
       ("TakerSendPrivkeyAction.Execute", "CoopCloseMessage", "Privkey")] := rfl

/-- no message other than coop_close has a key-carrying field at all, and coop_close is built in exactly
    one place -/
theorem C23_privkey_only_in_coop_close :
    (msgFields.filter (fun f => f.field == "Privkey" || f.msg == "CoopCloseMessage")).all
      (fun f => f.fn == "TakerSendPrivkeyAction.Execute" && f.msg == "CoopCloseMessage") = true := by decide +kernel

/-- every pubkey field is the public half of the swap key -/
theorem C23_pubkeys_are_public :
    (msgFields.filter (·.field == "Pubkey")).all
      (fun f => !f.secret && (f.expr == "hex.EncodeToString(swap.GetPrivkey().PubKey().SerializeCompressed())"
        || f.expr == "hex.EncodeToString(swap.Data.GetPrivkey().PubKey().SerializeCompressed())")) = true := by decide +kernel

/-- whatever reaches the messenger is a marshalled message literal (`msgBytes`) or the stored next message -/
theorem C23_payloads :
    sendPayloads.all (fun p => p.2 == "msgBytes" || p.2 == "swap.NextMessage") = true := by decide

/-- only the two taker machines ever run TakerSendPrivkeyAction, each in exactly one state, reached … -/
theorem C23_only_takers_reveal :
    ∀ r : Role, (table r).any (fun row => row.acts.contains .TakerSendPrivkeyAction) = true →
      r = .SwapOutSender ∨ r = .SwapInReceiver := by
  intro r; cases r <;> decide

theorem C23_reveal_states :
    ((table .SwapOutSender).filter (fun row => row.acts.contains .TakerSendPrivkeyAction)).map (·.st) = [.State_SwapOutSender_SendPrivkey]
    ∧ ((table .SwapInReceiver).filter (fun row => row.acts.contains .TakerSendPrivkeyAction)).map (·.st) = [.State_SwapInReceiver_SendPrivkey] := by
  decide

/-- … only from the states before the claim payment succeeded (waiting for the opening transaction, its
    confirmation, and the validate-and-pay state): never from ClaimSwap, i.e. never after the preimage was
    obtained (C06) -/
theorem C23_edges_into_reveal :
    ((table .SwapOutSender).filter (fun row => row.evs.any (·.2 == .State_SwapOutSender_SendPrivkey))).map (·.st)
      = [.State_SwapOutSender_AwaitTxBroadcastedMessage, .State_SwapOutSender_AwaitTxConfirmation,
         .State_SwapOutSender_ValidateTxAndPayClaimInvoice]
    ∧ ((table .SwapInReceiver).filter (fun row => row.evs.any (·.2 == .State_SwapInReceiver_SendPrivkey))).map (·.st)
      = [.State_SwapInReceiver_AwaitTxBroadcastedMessage, .State_SwapInReceiver_AwaitTxConfirmation,
         .State_SwapInReceiver_ValidateTxAndPayClaimInvoice] := by
  decide

end PsVerif.Props.C23
