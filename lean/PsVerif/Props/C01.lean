import PsVerif.Model.OpeningCheck
import PsVerif.Gen.Tables
import PsVerif.Gen.Consts
import PsVerif.Props.C02
/-
C01  Taker pays the claim invoice only for a validated, confirmed opening output.

Model: Model/OpeningCheck.lean (`validateBtc`, `validateLq`, `bindInvoice`, `paysBtc`, `paysLq`) and the
GENERATED state tables.  Tie: slice `opening` (the REAL BitcoinOnChain.ValidateTx / LiquidOnChain.ValidateTx on
real serialised transactions with generated outputs: amounts equal / off by one / wrapped, scripts right / of
another hash / of other keys / of another CSV, positions, duplicates, explicit and blinded Elements outputs,
wrong assets) and slice `paygate` (the real taker machines driven to the pay decision with every kind of wrong
announcement and invoice).  Depth and window are C20 / C04 / C05; the script itself is C02.
What is outside the model: transaction deserialisation and Elements unblinding are the libraries'.
-/
namespace PsVerif.Props.C01
open PsVerif PsVerif.Gen PsVerif.Model.OpeningCheck

/-- `ValidateTx` on Bitcoin accepts exactly the transactions with an output of int64(amount) to the wanted script -/
theorem validateBtc_iff {S : Type} [DecidableEq S] (amount : Nat) (want : S) (outs : List (BtcOut S)) :
    validateBtc amount want outs = true ↔ ∃ o ∈ outs, o.value = wrapI64 (amount : Int) ∧ o.script = want := by
  simp [validateBtc]

/-- Bitcoin: a transaction is accepted only if it contains an output of exactly int64(amount) that carries
    the wanted script -/
theorem C01_btc_sound {S : Type} [DecidableEq S] (amount : Nat) (want : S) (outs : List (BtcOut S))
    (h : validateBtc amount want outs = true) :
    ∃ o ∈ outs, o.value = wrapI64 (amount : Int) ∧ o.script = want :=
  (validateBtc_iff amount want outs).mp h

/-- … and accepts every transaction that has such an output, wherever it stands -/
theorem C01_btc_complete {S : Type} [DecidableEq S] (amount : Nat) (want : S) (outs : List (BtcOut S))
    (h : ∃ o ∈ outs, o.value = wrapI64 (amount : Int) ∧ o.script = want) : validateBtc amount want outs = true :=
  (validateBtc_iff amount want outs).mpr h

/-- `ValidateTx` on Liquid judges the first output with the wanted script, and accepts iff it unblinds to the policy
    asset, consistently with what the output shows, and to exactly the amount -/
theorem validateLq_iff {S : Type} [DecidableEq S] (amount : Nat) (want : S) (outs : List (LqOut S)) :
    validateLq amount want outs = true ↔
      ∃ o u, outs.find? (fun o => decide (o.script = want)) = some o ∧ o.unblind = some u ∧ u.assetIsPolicy = true ∧
        (if o.confidential then o.commitmentMatches else o.explicitAssetIsPolicy) = true ∧ u.value = amount := by
  unfold validateLq
  cases outs.find? (fun o => decide (o.script = want)) with
  | none => simp
  | some o => cases hu : o.unblind <;> simp [hu, and_assoc]

/-- Liquid: accepted only if an output carries the wanted script and unblinds, consistently with what the
    output shows, to the policy asset and exactly the amount -/
theorem C01_lq_sound {S : Type} [DecidableEq S] (amount : Nat) (want : S) (outs : List (LqOut S))
    (h : validateLq amount want outs = true) :
    ∃ o ∈ outs, o.script = want ∧ ∃ u, o.unblind = some u ∧ u.assetIsPolicy = true ∧ u.value = amount ∧
      (if o.confidential then o.commitmentMatches else o.explicitAssetIsPolicy) = true := by
  obtain ⟨o, u, hf, hu, ha, hc, hv⟩ := (validateLq_iff amount want outs).mp h
  exact ⟨o, List.mem_of_find?_eq_some hf, by simpa using List.find?_some hf, u, hu, ha, hv, hc⟩

/-- the invoice that is bound has exactly the claim amount (in msat, uint64 arithmetic of the code) and a final
    CLTV within the limit; its hash is the one the wanted script is built from -/
theorem C01_bind {H : Type} (maxFinal claimSat : Nat) (inv : Invoice H) (h : H)
    (hb : bindInvoice maxFinal claimSat inv = some h) :
    h = inv.hash ∧ inv.msat = wrapU64 (claimSat * 1000) ∧ inv.cltv ≤ (maxFinal : Int) := by
  unfold bindInvoice at hb
  split at hb
  · cases hb
  split at hb
  · cases hb
  rename_i hcltv hmsat
  exact ⟨(Option.some.inj hb).symm, Decidable.not_not.mp hmsat, Int.not_lt.mp hcltv⟩

/-- **C01 (Bitcoin)**: the claim payment call is made only for an invoice of exactly the claim amount whose
    payment hash is locked in the script of an output of exactly the on-chain amount of the confirmed
    transaction; with an injective script construction (C02) no other hash fits that output -/
theorem C01_pays_btc {S H : Type} [DecidableEq S] (scriptOf : H → S) (maxFinal amount claimSat : Nat)
    (inv : Invoice H) (outs : List (BtcOut S)) (h : paysBtc scriptOf maxFinal amount claimSat inv outs = true) :
    inv.msat = wrapU64 (claimSat * 1000) ∧ inv.cltv ≤ (maxFinal : Int) ∧
    ∃ o ∈ outs, o.value = wrapI64 (amount : Int) ∧ o.script = scriptOf inv.hash ∧
      (Function.Injective scriptOf → ∀ h', o.script = scriptOf h' → h' = inv.hash) := by
  unfold paysBtc at h
  split at h
  · cases h
  rename_i hh hb
  obtain ⟨rfl, e2, e3⟩ := C01_bind maxFinal claimSat inv hh hb
  obtain ⟨o, hm, hv, hs⟩ := C01_btc_sound amount _ outs h
  exact ⟨e2, e3, o, hm, hv, hs, fun hinj h' hh' => hinj (by rw [← hh', hs])⟩

/-- **C01 (Liquid)** -/
theorem C01_pays_lq {S H : Type} [DecidableEq S] (scriptOf : H → S) (maxFinal amount claimSat : Nat)
    (inv : Invoice H) (outs : List (LqOut S)) (h : paysLq scriptOf maxFinal amount claimSat inv outs = true) :
    inv.msat = wrapU64 (claimSat * 1000) ∧ 0 ≤ inv.cltv ∧ inv.cltv ≤ (maxFinal : Int) ∧
    ∃ o ∈ outs, o.script = scriptOf inv.hash ∧ ∃ u, o.unblind = some u ∧ u.assetIsPolicy = true ∧ u.value = amount := by
  unfold paysLq at h
  split at h
  · cases h
  rename_i hh hb
  split at hb
  · cases hb
  rename_i hneg
  obtain ⟨rfl, e2, e3⟩ := C01_bind maxFinal claimSat inv hh hb
  obtain ⟨o, hm, hs, u, hu, ha, hv, _⟩ := C01_lq_sound amount _ outs h
  exact ⟨e2, Int.not_lt.mp hneg, e3, o, hm, hs, u, hu, ha, hv⟩

/-- for every other transaction it never pays: no output of the amount, or the first such output with another
    script -/
theorem C01_btc_rejects {S : Type} [DecidableEq S] (amount : Nat) (want : S) (outs : List (BtcOut S))
    (h : ∀ o ∈ outs, o.value = wrapI64 (amount : Int) → o.script ≠ want) : validateBtc amount want outs = false := by
  cases hv : validateBtc amount want outs
  · rfl
  · obtain ⟨o, hm, h1, h2⟩ := C01_btc_sound amount want outs hv
    exact absurd h2 (h o hm h1)

theorem C01_lq_rejects {S : Type} [DecidableEq S] (amount : Nat) (want : S) (outs : List (LqOut S))
    (h : ∀ o ∈ outs, o.script ≠ want) : validateLq amount want outs = false := by
  cases hv : validateLq amount want outs
  · rfl
  · obtain ⟨o, hm, h1, _⟩ := C01_lq_sound amount want outs hv
    exact absurd h1 (h o hm)

/-- the pay action exists only in the two validate-and-pay states, and those are entered only from
    AwaitTxConfirmation on the watcher's confirmation event -/
theorem C01_pay_only_after_confirmation :
    (∀ r : Role, ((table r).filter (fun row => row.acts.contains .ValidateTxAndPayClaimInvoiceAction)).map (·.st) =
      (match r with
        | .SwapOutSender => [.State_SwapOutSender_ValidateTxAndPayClaimInvoice]
        | .SwapInReceiver => [.State_SwapInReceiver_ValidateTxAndPayClaimInvoice]
        | _ => []))
    ∧ ((table .SwapOutSender).flatMap (fun row => (row.evs.filter (·.2 == .State_SwapOutSender_ValidateTxAndPayClaimInvoice)).map (fun e => (row.st, e.1))))
        = [(.State_SwapOutSender_AwaitTxConfirmation, E_OnTxConfirmed)]
    ∧ ((table .SwapInReceiver).flatMap (fun row => (row.evs.filter (·.2 == .State_SwapInReceiver_ValidateTxAndPayClaimInvoice)).map (fun e => (row.st, e.1))))
        = [(.State_SwapInReceiver_AwaitTxConfirmation, E_OnTxConfirmed)] := by
  refine ⟨?_, ?_, ?_⟩
  · intro r; cases r <;> decide
  · decide
  · decide

/-- required depths are the generated constants: 3 Bitcoin / 2 Liquid confirmations -/
theorem C01_depths : bitcoinMinConfs = 3 ∧ liquidConfs = 2 := by decide

section
open PsVerif.Model.Script PsVerif.Props.C02

/-- the output script of a swap as the wallets and validators build it: P2WSH of the opening script bytes, with the
    hash function a parameter -/
def p2wshOf (sha : Bytes → Bytes) (maker taker : Bytes) (csv : Nat) (h : Bytes) : Bytes :=
  0 :: 32 :: sha (scriptBytes maker taker h csv)

/-- C01 ∘ C02: with the concrete script construction, an output that carries the script of one payment hash
    carries the script of no other payment hash — under the one named assumption that the hash function does not
    collide on the two scripts.  So the hash the taker pays for is the hash locked in the output. -/
theorem C01_hash_locked (sha : Bytes → Bytes) (maker taker : Bytes) (csv : Nat) (h h' : Bytes)
    (hm : maker.length = 33) (ht : taker.length = 33) (hh : h.length = 32) (hh' : h'.length = 32)
    (hc : CsvOperand csv)
    (hcoll : sha (scriptBytes maker taker h csv) = sha (scriptBytes maker taker h' csv) →
             scriptBytes maker taker h csv = scriptBytes maker taker h' csv)
    (e : p2wshOf sha maker taker csv h = p2wshOf sha maker taker csv h') : h = h' := by
  unfold p2wshOf at e
  simp only [List.cons.injEq, true_and] at e
  exact (C02_script_injective maker taker h maker taker h' csv csv hc hc (hcoll e)).2.2.1

end

-- non-vacuity; an output of the same value in front of the swap output does not matter
example : validateBtc 1000 "w" [⟨500, "x"⟩, ⟨1000, "w"⟩] = true := by decide
example : validateBtc 1000 "w" [⟨1000, "change"⟩, ⟨1000, "w"⟩] = true := by decide
example : validateBtc 1000 "w" [⟨1000, "change"⟩, ⟨999, "w"⟩] = false := by decide
example : validateLq 1000 "w" [⟨"x", none, false, false, false⟩, ⟨"w", some ⟨true, 1000⟩, false, true, false⟩] = true := by decide
example : validateLq 1000 "w" [⟨"w", some ⟨false, 1000⟩, false, true, false⟩] = false := by decide

end PsVerif.Props.C01
