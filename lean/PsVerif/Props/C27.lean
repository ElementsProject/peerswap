import PsVerif.Model.Premium
import PsVerif.Proofs.Wrap
/-
C27  Premiums follow the configured rate and match what peer-sync advertises.

Model: `ppmCompute` ((*PPM).Compute), `getRate`/`settingCompute` (premium.Setting),
`storePut/Get/Del` (the bbolt bucket keyed "<peer>.<asset>.<op>").
Tie: differential slices `premium` (pure) and `premiumstore` (operation sequences on the real
Setting over a real bbolt file with reopen, plus the rates the real peersync sends).
-/
namespace PsVerif.Props.C27
open PsVerif PsVerif.Model

/-- inside the no-overflow range the premium is amount × rate / 10^6 truncated toward zero -/
theorem C27_compute (amt : Nat) (ppm : Int) (h1 : amt < 2 ^ 63)
    (h2 : -(2 ^ 63) ≤ (amt : Int) * ppm) (h3 : (amt : Int) * ppm < 2 ^ 63) :
    ppmCompute amt ppm = Int.tdiv ((amt : Int) * ppm) 1000000 := by
  unfold ppmCompute
  rw [u64ToI64_eq amt h1, wrapI64_eq _ h2 h3]

/-- in particular for every amount up to 2^43 sat (far above 21e14) and every rate within ±10^6 ppm -/
theorem C27_compute_in_range (amt : Nat) (ppm : Int) (h1 : amt ≤ 2 ^ 43)
    (h2 : -1000000 ≤ ppm) (h3 : ppm ≤ 1000000) :
    ppmCompute amt ppm = Int.tdiv ((amt : Int) * ppm) 1000000 := by
  have ha0 : (0 : Int) ≤ amt := Int.natCast_nonneg amt
  have up : (amt : Int) * ppm ≤ amt * 1000000 := Int.mul_le_mul_of_nonneg_left h3 ha0
  have lo : (amt : Int) * (-1000000) ≤ amt * ppm := Int.mul_le_mul_of_nonneg_left h2 ha0
  exact C27_compute amt ppm (by omega) (by omega) (by omega)

/-- the full statement ("for all amounts and rates") is FALSE of the code: outside the range the int64
    product wraps.  Witness replayed on the real code (known finding C27/compute-overflow). -/
theorem C27_violated_overflow :
    ppmCompute 2100000000000000 (-385701) ≠ Int.tdiv ((2100000000000000 : Int) * (-385701)) 1000000 := by
  decide

theorem C27_rate_peer (s : RateStore) (peer : String) (a o : Nat) (r : Int)
    (h : storeGet s (rateKey peer a o) = some r) : getRate s peer a o = some r := by
  simp [getRate, h]

theorem C27_rate_default (s : RateStore) (peer : String) (a o : Nat) (r : Int)
    (h1 : storeGet s (rateKey peer a o) = none)
    (h2 : storeGet s (rateKey defaultPeer a o) = some r) : getRate s peer a o = some r := by
  simp [getRate, h1, h2]

theorem C27_rate_builtin (s : RateStore) (peer : String) (a o : Nat)
    (h1 : storeGet s (rateKey peer a o) = none)
    (h2 : storeGet s (rateKey defaultPeer a o) = none) : getRate s peer a o = builtinRate a o := by
  simp [getRate, h1, h2]

/-- the built-in defaults are the generated table (BTC in 0 / out 2000, LBTC in 0 / out 1000 on this tree) -/
theorem C27_builtin_total : ∀ a ∈ [1, 2], ∀ o ∈ [1, 2], (builtinRate a o).isSome = true := by decide

/-- the premium charged is `ppmCompute` of exactly that rate -/
theorem C27_compute_uses_rate (s : RateStore) (peer : String) (a o amt : Nat) :
    settingCompute s peer a o amt = (getRate s peer a o).map (ppmCompute amt) := rfl

theorem C27_map_delete (s : RateStore) (k k' : String) :
    storeGet (storeDel s k) k' = if k' = k then none else storeGet s k' := by
  induction s with
  | nil => simp [storeGet, storeDel]
  | cons e es ih =>
    obtain ⟨ek, ev⟩ := e
    by_cases hk : k' = k
    · -- every entry under `k` is dropped
      subst hk
      by_cases h : ek = k' <;> simp [storeGet, storeDel, h, ih]
    · -- an entry under another key is met by `storeGet` before and after alike
      rw [if_neg hk] at ih ⊢
      by_cases h : ek = k
      · simp [storeGet, storeDel, h, ih, Ne.symm hk]
      · simp [storeGet, storeDel, h, ih]

theorem C27_map_set (s : RateStore) (k k' : String) (v : Int) :
    storeGet (storePut s k v) k' = if k' = k then some v else storeGet s k' := by
  unfold storePut
  by_cases h : k' = k
  · subst h; simp [storeGet]
  · have h3 : ¬ k = k' := fun e => h e.symm
    simp [storeGet, h, h3, C27_map_delete]

theorem append_inj_right {s₁ t₁ s₂ t₂ : String} (h : s₁ ++ t₁ = s₂ ++ t₂) (hl : t₁.length = t₂.length) :
    s₁ = s₂ ∧ t₁ = t₂ := by
  have h' := congrArg String.toList h
  rw [String.toList_append, String.toList_append] at h'
  have := List.append_inj' h' (by rw [String.length_toList, String.length_toList, hl])
  exact ⟨String.toList_injective this.1, String.toList_injective this.2⟩

theorem rateKey_eq (p : String) (a o : Nat) : rateKey p a o = p ++ ("." ++ toString a ++ "." ++ toString o) := by
  simp only [rateKey, String.append_assoc]

/-- for the codes in use, what follows the peer id in a key has one length and determines the codes -/
theorem keyTail_codes : ∀ a ∈ [1, 2], ∀ o ∈ [1, 2], ∀ a' ∈ [1, 2], ∀ o' ∈ [1, 2],
    ("." ++ toString a ++ "." ++ toString o).length = ("." ++ toString a' ++ "." ++ toString o').length ∧
    ("." ++ toString a ++ "." ++ toString o = "." ++ toString a' ++ "." ++ toString o' → a = a' ∧ o = o') := by
  decide +kernel

/-- keys of different (peer, asset, operation) triples never collide, for the single-digit asset and
    operation codes the code uses (1, 2) and any peer id -/
theorem C27_key_injective (p p' : String) (a o a' o' : Nat)
    (ha : a = 1 ∨ a = 2) (ho : o = 1 ∨ o = 2) (ha' : a' = 1 ∨ a' = 2) (ho' : o' = 1 ∨ o' = 2)
    (h : rateKey p a o = rateKey p' a' o') : p = p' ∧ a = a' ∧ o = o' := by
  have ⟨hlen, hinj⟩ := keyTail_codes a (by simpa using ha) o (by simpa using ho)
    a' (by simpa using ha') o' (by simpa using ho')
  -- a peer id may itself contain '.', so the key is cut from the right, at the common length of the tails
  rw [rateKey_eq, rateKey_eq] at h
  have ⟨hp, ht⟩ := append_inj_right h hlen
  exact ⟨hp, hinj ht⟩

end PsVerif.Props.C27
