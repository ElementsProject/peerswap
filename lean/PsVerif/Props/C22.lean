import PsVerif.Proofs.MkCert
/-
C22  Retransmissions stop when the swap moves on.

Model: `resend` flag of Model/AbsMk.lean (set by SendMessageWithRetryAction through AddSender, cleared by
StopSendMessageWithRetryWrapperAction / NoOpDoneAction through RemoveSender, lost at restart) over the
GENERATED maker tables; `Resend` below models the goroutine of messages.RedundantMessenger.
-/
namespace PsVerif.Props.C22
open PsVerif.Gen PsVerif.Model.Abs PsVerif.Model.AbsMk PsVerif.Proofs.MkCert

/-- in every history a retransmitter exists only while the swap is in one of the states that wait for
    the taker's reaction (announcement being sent / waiting for the claim payment) -/
theorem C22_only_while_waiting_in : ∀ m, Reach (sysIn benign) m → resendOnlyWaiting m = true :=
  fun m hm => (allProps_in m hm).resendOnlyWaiting
theorem C22_only_while_waiting_out : ∀ m, Reach (sysOut benign) m → resendOnlyWaiting m = true :=
  fun m hm => (allProps_out m hm).resendOnlyWaiting

/-- never two retransmitters for one swap: the summary of SendMessageWithRetryAction refuses when one is
    active (AddSender returns ErrAlreadyHasASender), so the flag is a faithful count -/
theorem C22_at_most_one (e : Env) (s : St) (f : F) (h : f.resend = true) :
    outcomes0 e [.SendMessageWithRetryAction] f = [(E_ActionFailed, f)]
    ∧ (outcomes e s [.SendMessageWithRetryAction] f).map (·.1) = [E_ActionFailed] := by
  simp [outcomes, outcomes0, h]

/-! ### the retransmission goroutine after `Stop`

`select { case <-ticker.C: (stop closed? return) send; case <-stop: return }` with a ticker channel of
capacity one.  A send takes time (`beginSend` … `endSend`); ticks arrive WHENEVER the ticker fires — also
after `Stop`, also while a send is in flight (the first model assumed "no new tick becomes ready after Stop
between two evaluations of the select": false as soon as a send lasts longer than the interval — a Lightning
node that answers slowly — and the real code then started further copies with probability 1/2 each; found
by a reviewing sub-agent, repaired in /repo: the tick branch looks at `stop` first).  `checkStop = false` is
the code before the repair. -/

structure G where
  buffered : Bool       -- a tick is waiting in the ticker channel
  stopped : Bool
  exited : Bool
  inflight : Bool       -- a send has started and not returned
  startedAfterStop : Nat
  finishedAfterStop : Nat
  deriving DecidableEq, Repr

inductive Step where
  | tick | stop | runTick | runStop | endSend
  deriving DecidableEq, Repr

def gstep (checkStop : Bool) (g : G) : Step → G
  | .tick => { g with buffered := true }                       -- no real-time assumption
  | .stop => { g with stopped := true }
  | .runTick =>                                                -- the select takes the tick branch
      if !g.exited && !g.inflight && g.buffered then
        if checkStop && g.stopped then { g with buffered := false, exited := true }
        else { g with buffered := false, inflight := true,
                      startedAfterStop := g.startedAfterStop + (if g.stopped then 1 else 0) }
      else g
  | .runStop => if !g.exited && !g.inflight && g.stopped then { g with exited := true } else g
  | .endSend => if g.inflight then
      { g with inflight := false, finishedAfterStop := g.finishedAfterStop + (if g.stopped then 1 else 0) } else g

def grun (checkStop : Bool) (g : G) (sched : List Step) : G := sched.foldl (gstep checkStop) g

def g0 : G := ⟨false, false, false, false, 0, 0⟩

def Inv (g : G) : Prop :=
  g.startedAfterStop = 0 ∧
  ((g.stopped = false ∧ g.finishedAfterStop = 0) ∨
   (g.stopped = true ∧ g.finishedAfterStop + (if g.inflight then 1 else 0) ≤ 1))

theorem inv_step (g : G) (s : Step) (h : Inv g) : Inv (gstep true g s) := by
  obtain ⟨b, st, ex, fl, n, m⟩ := g
  unfold Inv at *
  cases s <;> cases b <;> cases st <;> cases ex <;> cases fl <;> simp [gstep] at h ⊢ <;> omega

theorem inv_run (sched : List Step) (g : G) (h : Inv g) : Inv (grun true g sched) := by
  induction sched generalizing g with
  | nil => exact h
  | cons s rest ih =>
    simp only [grun, List.foldl_cons]
    exact ih _ (inv_step g s h)

/-- on EVERY schedule of ticks (at any time, any number), the stop, select evaluations and send completions:
    no copy is started after `Stop`, and at most one — the copy in flight at that moment — completes after it -/
theorem C22_after_stop (sched : List Step) :
    (grun true g0 sched).startedAfterStop = 0 ∧ (grun true g0 sched).finishedAfterStop ≤ 1 := by
  have h := inv_run sched g0 ⟨rfl, Or.inl ⟨rfl, rfl⟩⟩
  unfold Inv at h
  refine ⟨h.1, ?_⟩
  rcases h.2 with h | h
  · omega
  · have := h.2
    split at this <;> omega

/-- the copy in flight does complete after the stop on some schedule (the bound 1 is attained) -/
example : (grun true g0 [.tick, .runTick, .stop, .endSend, .runStop]).finishedAfterStop = 1 := by decide

/-- the code before the repair: with a send that outlasts the interval, copies keep being started after the
    stop (here two; every further `tick, endSend, runTick` adds one) -/
theorem C22_old_select_keeps_sending :
    (grun false g0 [.tick, .runTick, .stop, .tick, .endSend, .runTick, .tick, .endSend, .runTick]).startedAfterStop = 2 := by
  decide

end PsVerif.Props.C22
