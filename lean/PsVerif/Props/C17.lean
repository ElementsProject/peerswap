import PsVerif.Model.AbsNg
import PsVerif.Proofs.Search
/-
C17  Negotiation waits are bounded by timeouts, also after restarts.

Model: the abstract engine over the GENERATED tables of the two requester roles and the swap-out responder
with the flags of Model/AbsNg.lean (timer armed — volatile, lost at restart —, offer sent, cancel handed to
the messenger, cancel received).  The 10-minute durations are observed by the harness
(swap.VerifTimeouts records every registration with its duration).
-/
namespace PsVerif.Props.C17
open PsVerif.Gen PsVerif.Model.Abs PsVerif.Model.AbsNg

def sysOutS := sys tableSwapOutSender
def sysInS := sys tableSwapInSender
def sysOutR := sys tableSwapOutReceiver

def certInS := reachCert sysInS 80
def certOutR := reachCert sysOutR 80

def holds (m : MC F) : Bool := !m.f.unknownAct && waitBounded m && peerTold m

/-- the facts read off the last two certificates are the witnesses of `C17_nonvacuous` -/
theorem certOutS_ok : certified sysOutS 80 holds = true := by decide +kernel
theorem certInS_ok : certified sysInS 80 holds (fun c => c.toList.any fun m =>
    m.st == .State_SwapInSender_AwaitAgreement && m.f.timerArmed && m.pend.isNone) = true := by decide +kernel
theorem certOutR_ok : certified sysOutR 80 holds (fun c => c.toList.any fun m =>
    m.st == .State_SwapOutReceiver_AwaitFeeInvoicePayment && m.f.timerArmed && m.pend.isNone) = true := by decide +kernel

/-- swap-out requester: in every history (incl. restarts at any point) a swap resting in AwaitAgreement has
    an armed timer, and a swap it offered and then cancelled on its own went through SendCancel -/
theorem C17_requester_swap_out : ∀ m, Reach sysOutS m → holds m = true := (certified_spec certOutS_ok).1
/-- swap-in requester: same -/
theorem C17_requester_swap_in : ∀ m, Reach sysInS m → holds m = true := (certified_spec certInS_ok).1
/-- swap-out responder: a swap resting in AwaitFeeInvoicePayment has an armed timer -/
theorem C17_responder_fee_invoice : ∀ m, Reach sysOutR m → holds m = true := (certified_spec certOutR_ok).1

/-- when that timer fires the generated tables send a cancel (never ignore it) in the three waits -/
theorem C17_timeout_cancels :
    nextSt tableSwapOutSender .State_SwapOutSender_AwaitAgreement E_OnTimeout = some .State_SendCancel ∧
    nextSt tableSwapInSender .State_SwapInSender_AwaitAgreement E_OnTimeout = some .State_SendCancel ∧
    nextSt tableSwapOutReceiver .State_SwapOutReceiver_AwaitFeeInvoicePayment E_OnTimeout = some .State_SendCancel ∧
    (∀ tb ∈ [tableSwapOutSender, tableSwapInSender, tableSwapOutReceiver],
      actsOf tb .State_SendCancel = [.SendCancelAction] ∧
      nextSt tb .State_SendCancel E_ActionSucceeded = some .State_SwapCanceled ∧
      nextSt tb .State_SendCancel E_ActionFailed = some .State_SwapCanceled) := by decide

/-- after a restart every negotiation state before the opening transaction exists is failed and the peer
    is told: the persisted states of the three roles are FailOnrecover with ActionFailed → SendCancel, or
    (CreateSwap: nothing was sent yet) → SwapCanceled -/
theorem C17_restart_fails_negotiation :
    (∀ s ∈ [St.State_SwapOutSender_SendRequest, .State_SwapOutSender_AwaitAgreement],
      failOnRecover tableSwapOutSender s = true ∧ nextSt tableSwapOutSender s E_ActionFailed = some .State_SendCancel) ∧
    (∀ s ∈ [St.State_SwapInSender_SendRequest, .State_SwapInSender_AwaitAgreement],
      failOnRecover tableSwapInSender s = true ∧ nextSt tableSwapInSender s E_ActionFailed = some .State_SendCancel) ∧
    (∀ s ∈ [St.State_SwapOutReceiver_SendFeeInvoice, .State_SwapOutReceiver_AwaitFeeInvoicePayment],
      failOnRecover tableSwapOutReceiver s = true ∧ nextSt tableSwapOutReceiver s E_ActionFailed = some .State_SendCancel) := by
  decide

/-- non-vacuity: the waits are reachable with the timer armed -/
theorem C17_nonvacuous :
    (certInS.toList.any fun m => m.st == .State_SwapInSender_AwaitAgreement && m.f.timerArmed && m.pend.isNone) = true ∧
    (certOutR.toList.any fun m => m.st == .State_SwapOutReceiver_AwaitFeeInvoicePayment && m.f.timerArmed && m.pend.isNone) = true :=
  ⟨(certified_spec certInS_ok).2, (certified_spec certOutR_ok).2⟩

end PsVerif.Props.C17
