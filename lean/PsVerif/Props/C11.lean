import PsVerif.Model.Admit
import PsVerif.Model.ChanCap
import PsVerif.Proofs.Wrap
/-
C11  Incoming requests are admitted only when every policy condition holds.

Model: `admission` (the pre-checks of OnSwap{In,Out}RequestReceived, message validation, lockSwap,
CheckRequestWrapperAction, the balance check of CreateSwapOutFromRequestAction) as one decision function.
Tie: differential slice `admission` (requests × configurations through the real service with the real
premium.Setting; the answer sent to the peer is compared).
-/
namespace PsVerif.Props.C11
open PsVerif PsVerif.Model PsVerif.Gen

/-- soundness: an agreement is produced only if every condition holds (the two amount conditions are
    on `amount*1000` as the code computes it, i.e. modulo 2^64 — see `C11_partial_no_wrap`) -/
theorem C11_sound (c : NodeCfg) (r : Request) (p : Int) (h : admission c r = .agreement p) :
    c.allowNew = true ∧ validRequest r = true ∧
    (reqChain r = .lbtc → c.lbtcEnabled = true) ∧ (reqChain r = .btc → c.btcEnabled = true) ∧
    (r.asset ≠ "" → r.asset = c.walletAsset) ∧ (r.network ≠ "" → r.network = c.walletNetwork) ∧
    r.version = protocolVersion ∧ c.minMsat ≤ reqMsat r ∧
    (r.swapOut = false → reqMsat r ≤ c.spendable ∧ c.probeOk = true) ∧
    (r.swapOut = true → reqMsat r ≤ c.receivable ∧ wrapU64 (r.amount + c.openingFee) ≤ c.balance) ∧
    (c.acceptAll = true ∨ c.allowlisted = true) ∧ c.suspicious = false ∧ c.channelBusy = false ∧
    p = reqPremium c r ∧ p ≤ r.premiumLimit := by
  unfold admission at h
  split at h
  · cases h
  · rename_i hn
    cases h
    -- no refusal fires; negated one by one (`(a && b) = false` read as `a → ¬b`) they are the conjuncts
    have hall := List.find?_eq_none.mp hn
    simp only [refusals, List.mem_cons, List.mem_nil_iff, or_false, forall_eq_or_imp, forall_eq,
      Bool.not_eq_true, Bool.and_eq_false_imp, Bool.not_eq_eq_eq_not, Bool.not_true, Bool.not_false,
      decide_eq_false_iff_not, decide_eq_true_eq, Int.not_lt, Nat.not_lt, Decidable.not_not, Bool.or_eq_true] at hall
    obtain ⟨h1, h2, h3, h4, h5, h6, h7, h8, h9, h10, h11, h12, h13, h14, h15, h16⟩ := hall
    exact ⟨h7, h6, h8, h9, h12, h13, h10, h11, fun hs => ⟨h2 hs, h3 hs⟩, fun hs => ⟨h4 hs, h16 hs⟩,
      h14, h15, h5, rfl, h1⟩

/-- completeness: when some condition fails the verdict is a cancel (never an agreement), with the reason
    of the FIRST failing check in source order -/
theorem C11_complete_cancel (c : NodeCfg) (r : Request) (x : Bool × String)
    (h : (refusals c r).find? (·.1) = some x) : admission c r = .cancel x.2 := by
  unfold admission; rw [h]

/-- inside the no-wrap range the two amount conditions are about the real amount -/
theorem C11_partial_no_wrap (r : Request) (h : r.amount < 18446744073709552) : reqMsat r = r.amount * 1000 := by
  unfold reqMsat
  exact wrapU64_eq _ (by omega)

/-- outside it they are not: an amount whose product wraps passes "fits the channel" and "minimum"
    although it is larger than any channel (latent: no wallet can fund it) -/
theorem C11_violated_wrapping_amount :
    reqMsat { swapOut := false, version := 7, asset := "", network := "regtest", scidOk := true, pubkeyOk := true,
              assetOk := true, networkOk := true, amount := 18446744073709652, premiumLimit := 0 } = 100384 := by
  decide

/-! ### what the adapters report as the channel's capacity (the `spendable` / `receivable` of `NodeCfg`)

`C11_sound` says "amount ≤ spendable/receivable"; these say that the figure itself is at most what the channel
side holds above its reserve — the link that was missing when both adapters wrapped around below the reserve
(/repo fix 112d7d5, found by a reviewing sub-agent; slice `chancap` runs the REAL LND adapter over a fake gRPC
node and the CLN channel arithmetic on the same inputs). -/

/-- lnd: never more than balance − reserve, and nothing at or below the reserve (balances up to 2^53 sat) -/
theorem C11_lnd_capacity (bal : Int) (res : Nat) (hb : bal < 9007199254740992) :
    (lndAboveReserveMsat bal res : Int) = (if bal ≤ (res : Int) then 0 else (bal - res) * 1000)
    ∧ (bal ≤ (res : Int) → lndAboveReserveMsat bal res = 0) := by
  unfold lndAboveReserveMsat
  split
  · rw [if_pos (by omega)]
    exact ⟨rfl, fun _ => rfl⟩
  split
  · rw [if_pos (by omega)]
    exact ⟨rfl, fun _ => rfl⟩
  · rw [wrapU64_eq _ (by omega), if_neg (by omega)]
    exact ⟨by omega, fun h => by omega⟩

/-- CLN: lightningd's figure when it is positive, otherwise at most what the side holds above its reserve -/
theorem C11_cln_capacity (rep total toUs res : Nat) :
    (rep > 0 → clnSpendableMsat rep toUs res = rep ∧ clnReceivableMsat rep total toUs res = rep)
    ∧ (rep = 0 → clnSpendableMsat rep toUs res = toUs - res ∧ clnReceivableMsat rep total toUs res = total - toUs - res) := by
  unfold clnSpendableMsat clnReceivableMsat
  refine ⟨fun h => ?_, fun h => ?_⟩
  · rw [if_pos h, if_pos h]
    exact ⟨rfl, rfl⟩
  · subst h
    -- the fallback's guarded subtractions are the truncated subtractions of `Nat`
    rw [if_neg (Nat.lt_irrefl 0), if_neg (Nat.lt_irrefl 0)]
    constructor
    · split <;> omega
    · split
      · omega
      · split <;> omega

/-- the rule before the fix, at the point that matters: remote balance 0, reserve 10 000 sat — "receivable"
    18 446 744 073 699 551 616 msat -/
theorem C11_old_capacity_wraps :
    lndAboveReserveMsatOld 0 10000 = 18446744073699551616 ∧ lndAboveReserveMsat 0 10000 = 0 := by decide

end PsVerif.Props.C11
