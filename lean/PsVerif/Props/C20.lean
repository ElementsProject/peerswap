import PsVerif.Model.Watcher
import PsVerif.Proofs.Wrap
import PsVerif.Proofs.Guard
/-
C20  Chain watchers report confirmation and CSV maturity only when true.

Model: Model/Watcher.lean — one iteration of the RPC watcher's `observationLoop` (with
`IsTxInMempoolOrRange`) as a function of the height it is handed and the RPC answers it reads, and the CSV
test of `HandleCsvTx` / `AddWaitForCsvTx`.  Tie: slice `watcher` (the REAL BlockchainRpcTxWatcher over a
scripted RPC: handed heights in sync with, behind and ahead of the RPC tip; confirmed / unconfirmed / spent
/ unknown outputs; stale best-block hashes; errors of every call; heights around both window edges).

The Electrum observers (electrum/tx_observer.go), the LWK header filter and the decisions of the LND watcher
(lnd/txwatcher.go) are modelled in the same file and tied by slices `elwatch` and `lndwatch` (the real
observers over a scripted Electrum RPC; the real lnd.TxWatcher over scripted gRPC clients and streams).

Truth is stated against a chain: tip `H`, the transaction in block `h` of that chain (depth H-h+1), the RPC
answering consistently with it (`viewOf`), the handed height not ahead of that tip.
-/
namespace PsVerif.Props.C20
open PsVerif PsVerif.Model.Watcher

/-- the answers of a node whose best chain has tip `H` and holds the (unspent) transaction in block `h` -/
def viewOf (H h : Nat) : View :=
  ⟨false, H, false, false, some ⟨true, H + 1 - h⟩, false, false, .notFound⟩

theorem firstSeen_of_view (start H h : Nat) (hh : 1 ≤ h) (hH : h ≤ H) (hb : H < 2 ^ 32) :
    isTxInMempoolOrRange start (viewOf H h) = .ok h := by
  unfold isTxInMempoolOrRange viewOf
  simp only [Bool.false_eq_true, if_false, Bool.not_true, wrapU32_eq H hb, Int.ofNat_eq_natCast]
  -- H + 1 - h ≥ 1 confirmations; exactly one: the block is the tip itself; more: tip + 1 - confirmations
  rw [if_neg (by omega)]
  split
  · congr 1; omega
  · rw [wrapU32i_eq _ (by omega) (by omega)]
    congr 1; omega

/-- One iteration against a chain, for every handed height, with the uint32 arithmetic gone (no height wraps, the
    depth test read in `Nat`); soundness and completeness are read off this. -/
theorem observe_viewOf (confs start limit last height H h : Nat)
    (hh : 1 ≤ h) (hH : h ≤ H) (hb : H < 2 ^ 32) (hs : start + limit < 2 ^ 32) :
    observe confs start limit last height (viewOf H h) =
      if height ≤ last then .dup
      else if start + limit ≤ height then .failed
      else if start + limit < h then .failed
      else if confs + h ≤ min height H + 1 then .confirmed
      else .wait := by
  have depth : Int.ofNat (min height H) - (Int.ofNat h - 1) ≥ Int.ofNat confs ↔ confs + h ≤ min height H + 1 := by
    simp only [Int.ofNat_eq_natCast]; omega
  unfold observe
  rw [wrapU32_eq _ hs, firstSeen_of_view start H h hh hH hb]
  simp only [viewOf, wrapU32_eq H hb, depth, ge_iff_le, gt_iff_lt]

/-- **soundness**: whenever the watcher reports the opening transaction as confirmed, the transaction has at
    least the required depth on the node's best chain and the payment window was still open at the height the
    watcher was handed — for EVERY handed height: at or below the tip (a stale notification) and above it
    (a reorganisation left the node with a shorter best chain than the height the block poller had seen; the
    hypothesis `height ≤ H` that this theorem needed before /repo fix "count the depth up to the node's tip"
    is gone, its witness is `C20_depth_from_handed_height_unsound`) -/
theorem C20_confirmed_sound (confs start limit last height H h : Nat)
    (hh : 1 ≤ h) (hH : h ≤ H) (hb : H < 4294967296) (hs : start + limit < 4294967296)
    (hc : observe confs start limit last height (viewOf H h) = .confirmed) :
    confs ≤ H - h + 1 ∧ height < start + limit ∧ h ≤ start + limit := by
  rw [observe_viewOf confs start limit last height H h hh hH (by omega) (by omega)] at hc
  obtain ⟨-, hc⟩ := guard_passed hc nofun
  obtain ⟨h2, hc⟩ := guard_passed hc nofun
  obtain ⟨h3, hc⟩ := guard_passed hc nofun
  split at hc
  · omega
  · cases hc

/-- the rule of the code before that fix (depth counted from the handed height alone): tip 103 with the
    transaction in block 103 (one confirmation), handed height 105 from the chain that was reorganised away,
    three confirmations required — reported as confirmed -/
theorem C20_depth_from_handed_height_unsound :
    (Int.ofNat 105 - (Int.ofNat 103 - 1) ≥ Int.ofNat 3) ∧ ¬ (3 ≤ 103 - 103 + 1)
    ∧ isTxInMempoolOrRange 100 (viewOf 103 103) = .ok 103
    ∧ observe 3 100 60 104 105 (viewOf 103 103) = .wait := by decide

/-- once the window has closed the watcher reports a failure, whatever the node answers -/
theorem C20_window_closed_fails (confs start limit last height : Nat) (v : View)
    (hs : start + limit < 4294967296) (hnew : last < height) (hclosed : start + limit ≤ height) :
    observe confs start limit last height v = .failed := by
  unfold observe
  rw [wrapU32_eq _ (by omega), if_neg (by omega), if_pos hclosed]

/-- **completeness**: in sync with the node, inside the window, a transaction with the required depth is
    reported as confirmed -/
theorem C20_confirmed_complete (confs start limit last H h : Nat)
    (hh : 1 ≤ h) (hH : h ≤ H) (hb : H < 4294967296) (hs : start + limit < 4294967296)
    (hnew : last < H) (hopen : H < start + limit) (hdeep : confs ≤ H - h + 1) :
    observe confs start limit last H (viewOf H h) = .confirmed := by
  rw [observe_viewOf confs start limit last H H h hh hH (by omega) (by omega),
    if_neg (by omega), if_neg (by omega), if_neg (by omega), if_pos (by omega)]

/-- a mempool transaction, a stale best-block answer and an output the node does not know yet only make the
    watcher wait; they never end the swap -/
theorem C20_transients_wait (confs start limit last height rpcH : Nat) (t : TxOut)
    (hs : start + limit < 4294967296) (hnew : last < height) (hopen : height < start + limit)
    (ht : t.bestMatches = false ∨ t.confs = 0) :
    observe confs start limit last height ⟨false, rpcH, false, false, some t, false, false, .notFound⟩ = .wait := by
  unfold observe isTxInMempoolOrRange
  rw [wrapU32_eq _ (by omega), if_neg (by omega), if_neg (by omega)]
  rcases ht with h | h
  · simp [h]
  · cases hb : t.bestMatches <;> simp [hb, h]

/-- a height the loop has already seen reads nothing and reports nothing -/
theorem C20_duplicate_height (confs start limit last height : Nat) (v : View) (h : height ≤ last) :
    observe confs start limit last height v = .dup := by
  unfold observe; rw [if_pos h]

/-- CSV maturity is reported exactly when the node sees the output with at least CSV confirmations -/
theorem C20_csv_iff (csv : Nat) (txoutErr : Bool) (txout : Option Nat) :
    csvDue csv txoutErr txout = true ↔ txoutErr = false ∧ ∃ c, txout = some c ∧ csv ≤ c := by
  unfold csvDue
  cases txoutErr <;> cases txout <;> simp

/-! ### Electrum observers (LWK back end): the subscription height is the tip -/

theorem hasConfirmations_true (txH tip : Int) (req : Nat) (h : hasConfirmations txH tip req = some true) :
    0 < txH ∧ txH ≤ tip ∧ Int.ofNat req ≤ tip - txH + 1 := by
  unfold hasConfirmations at h
  obtain ⟨h1, h⟩ := guard_passed h nofun
  obtain ⟨h2, h⟩ := guard_passed h (by decide)
  obtain ⟨h3, h⟩ := guard_passed h nofun
  exact ⟨by omega, by omega, by simpa using h⟩

/-- Both Electrum observers end in the same test: the height the transaction is listed at, then `hasConfirmations`.
    Anything but "nothing" and "error" comes out of it only for a listed transaction of the required depth. -/
theorem depth_verdict {hist : Option Int} {current : Int} {required : Nat} {deep out : ElOut}
    (h : (match hist with
          | none => ElOut.nothing
          | some txH => match hasConfirmations txH current required with
            | none => .error
            | some false => .nothing
            | some true => deep) = out)
    (h1 : out ≠ .nothing) (h2 : out ≠ .error) :
    deep = out ∧ ∃ txH, hist = some txH ∧ 0 < txH ∧ txH ≤ current ∧ Int.ofNat required ≤ current - txH + 1 := by
  cases hist with
  | none => exact absurd h.symm h1
  | some txH =>
    simp only at h
    split at h
    · exact absurd h.symm h2
    · exact absurd h.symm h1
    · next hc => exact ⟨h, txH, rfl, hasConfirmations_true _ _ _ hc⟩

/-- the Electrum opening observer reports confirmed only for a transaction listed at a positive height not
    above the tip, with at least the required depth, at a tip inside [start, start+window) -/
theorem C20_electrum_confirmed_sound (start window required : Nat) (current : Int) (histErr rawErr : Bool)
    (hist : Option Int) (h : elOpening start window required current histErr hist rawErr = .confirmed) :
    ∃ txH, hist = some txH ∧ 0 < txH ∧ txH ≤ current ∧ Int.ofNat required ≤ current - txH + 1 ∧
      Int.ofNat start ≤ current ∧ current < Int.ofNat start + Int.ofNat window := by
  unfold elOpening at h
  obtain ⟨-, h⟩ := guard_passed h nofun
  obtain ⟨hw, h⟩ := guard_passed h nofun
  obtain ⟨-, h⟩ := guard_passed h nofun
  obtain ⟨-, txH, ht, a1, a2, a3⟩ := depth_verdict h nofun nofun
  exact ⟨txH, ht, a1, a2, a3, by omega, by omega⟩

/-- … and reports a failure exactly when the tip is outside the window (below the start, which only a stale
    server can produce, or at/after its end) -/
theorem C20_electrum_failed_iff (start window required : Nat) (current : Int) (histErr rawErr : Bool) (hist : Option Int) :
    elOpening start window required current histErr hist rawErr = .failed ↔
      0 < current ∧ (current < Int.ofNat start ∨ Int.ofNat start + Int.ofNat window ≤ current) := by
  unfold elOpening
  constructor
  · intro h
    obtain ⟨h1, h⟩ := guard_passed h nofun
    split at h
    · exact ⟨by omega, by omega⟩
    -- past the window guard no branch reports a failure
    obtain ⟨-, h⟩ := guard_passed h nofun
    obtain ⟨hd, -⟩ := depth_verdict h nofun nofun
    split at hd <;> cases hd
  · intro ⟨h1, h2⟩
    rw [if_neg (by omega), if_pos (by omega)]

/-- the Electrum CSV observer reports maturity only at depth >= csv -/
theorem C20_electrum_csv_sound (csv : Nat) (current : Int) (histErr : Bool) (hist : Option Int)
    (h : elCsv csv current histErr hist = .matured) :
    ∃ txH, hist = some txH ∧ 0 < txH ∧ txH ≤ current ∧ Int.ofNat csv ≤ current - txH + 1 := by
  unfold elCsv at h
  obtain ⟨-, h⟩ := guard_passed h nofun
  exact (depth_verdict h nofun nofun).2

/-- the LWK header filter only ever moves the stored tip upwards, and observers are run only for a new
    higher tip -/
theorem C20_accept_monotone (stored : Int) (terminal : Bool) (header : Option Int) (st : Int) (ch : Bool)
    (h : acceptHeight stored terminal header = some (st, ch)) :
    stored ≤ st ∨ stored ≤ 0 := by
  unfold acceptHeight at h
  cases header with
  | none => cases h
  | some hh =>
    simp only at h
    obtain ⟨-, h⟩ := guard_passed h nofun
    obtain ⟨-, h⟩ := guard_passed h nofun
    split at h <;> cases h <;> omega

/-- on lnd's confirmation notification (lnd itself guarantees the target confirmations) the watcher reports
    confirmed only while fewer than CSV/2 blocks have passed since the first confirmation, and a failure — not
    a CSV event — once that window has closed; a GetInfo height behind the notifier never produces a failure -/
theorem C20_lnd_on_conf (safety current confHeight : Nat) :
    (lndOnConf safety false current confHeight = .confirmed ↔ Int.ofNat current - Int.ofNat confHeight + 1 < Int.ofNat safety)
    ∧ (lndOnConf safety false current confHeight = .failed ↔ Int.ofNat safety ≤ Int.ofNat current - Int.ofNat confHeight + 1)
    ∧ (current < confHeight → 0 < safety → lndOnConf safety false current confHeight = .confirmed) := by
  unfold lndOnConf
  simp only [Bool.false_eq_true, if_false, Int.ofNat_eq_natCast]
  refine ⟨?_, ?_, fun h1 h2 => if_neg (by omega)⟩
  · split <;> simp <;> omega
  · split <;> simp <;> omega

/-- the LND CSV watcher reports maturity exactly at depth >= csv (for epochs not below the confirmation block) -/
theorem C20_lnd_csv (csv epoch confHeight : Nat) (h : confHeight ≤ epoch + 1) (hb : epoch + 1 < 4294967296) :
    lndCsvOnEpoch csv epoch confHeight = true ↔ csv ≤ epoch + 1 - confHeight := by
  unfold lndCsvOnEpoch
  simp only [Int.ofNat_eq_natCast, decide_eq_true_eq]
  rw [wrapU32i_eq _ (by omega) (by omega)]
  omega

-- non-vacuity, and the case that used to go wrong (handed height 1000, tip 1005, 4 of 6 confirmations)
example : observe 3 800000 504 0 800010 (viewOf 800010 800008) = .confirmed := by decide
example : observe 3 800000 504 0 800010 (viewOf 800010 800009) = .wait := by decide
example : observe 6 1000 504 0 1000 (viewOf 1005 1002) = .wait := by decide
example : observe 3 800000 504 0 800504 (viewOf 800504 800400) = .failed := by decide

end PsVerif.Props.C20
