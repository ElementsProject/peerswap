import PsVerif.Proofs.PolicySpec
/-
C25  Policy changes apply immediately and survive a reload.

Model: `Model/PolicyFile.lean` — the policy file as lines, the go-flags ini reader as `policy.create`
uses it (`classify`/`applyAct`: comments, blank lines, [section] headers, key = value with trimming and
simple quoting, options matched by `long` name or Go field name, list options cleared on first
assignment, bool/uint conversions), and the six runtime operations + `ReloadFile` of policy/policy.go,
each a textual edit of the file (`addLine`, `removeLine`/`sameOption`) followed by a reload.
`Proofs/PolicySpec.lean` gives the reader in closed form (`parse_meaning`).
Tie: slice `policy` (operation sequences on the real policy.Policy over a real file from generated
pre-existing contents, compared after every operation: answer class, every setting, the file bytes, and
whether a fresh CreateFromFile equals memory) and monitor C25 (judges the real code alone).

The theorems hold for states that are `Good`: a path is set, file and memory agree, and the file is in
the documented format (`Plain`: no [section] header; lists named `allowlisted_peers`/`suspicious_peers`
rather than by Go field name).  Hand-written spacing, quoting, comments, unknown keys, CR LF line ends,
a missing final newline and other options are all inside `Good`.  Outside `Plain` the property is
violated by the code: witnesses in Findings/C25.lean (known findings).
-/
namespace PsVerif.Props.C25
open PsVerif.Model.PolicyFile PsVerif.Proofs.PolicyLemmas PsVerif.Proofs.PolicySpec

/-- file and memory agree: a fresh load of the file (a restart, `ReloadFile`) yields the policy in memory -/
def Sync (s : St) : Prop := parse s.file = some s.mem

/-- the documented file format: no [section] header, and the two lists named by their option names
    (`allowlisted_peers`, `suspicious_peers`), not by the Go field names go-flags also accepts -/
def Plain (lines : List Str) : Prop :=
  ∀ as, classifyAll lines = some as →
    hasHeader as = false ∧ ∀ kv ∈ effKV as, kv.1 ≠ kAllowF ∧ kv.1 ≠ kSuspF

theorem opkey_not_alias (k : Str) (hk : OpKey k) : k ≠ kAllowF ∧ k ≠ kSuspF := by
  rcases hk with rfl | rfl | rfl <;> exact ⟨by decide, by decide⟩

theorem kf_allow : keyField kAllow = .allow := by decide
theorem kf_susp : keyField kSusp = .susp := by decide
theorem kf_new : keyField kNew = .new := by decide

theorem keyField_list (x : Str) :
    (keyField x = .allow → x = kAllow ∨ x = kAllowF) ∧ (keyField x = .susp → x = kSusp ∨ x = kSuspF) := by
  let P (f : Field) : Prop := (f = .allow → x = kAllow ∨ x = kAllowF) ∧ (f = .susp → x = kSusp ∨ x = kSuspF)
  show P (keyField x)
  unfold keyField
  -- down the chain of tests: the first two branches hold their condition, the others name other options
  refine iteInduction (motive := P) (fun h => ⟨fun _ => h, nofun⟩) fun _ => ?_
  refine iteInduction (motive := P) (fun h => ⟨nofun, fun _ => h⟩) fun _ => ?_
  repeat' refine iteInduction (motive := P) (fun _ => ?_) (fun _ => ?_)
  all_goals exact ⟨nofun, nofun⟩

/-- the two list options: in a file without Go field names every entry of the option is spelled `k` -/
theorem listKey_facts {k : Str} (hk : k = kAllow ∨ k = kSusp) :
    OpKey k ∧ (keyField k = .allow ∨ keyField k = .susp) ∧
    ∀ x, x ≠ kAllowF → x ≠ kSuspF → keyField x = keyField k → x = k := by
  rcases hk with rfl | rfl
  · exact ⟨.inl rfl, .inl kf_allow, fun x h1 _ h => ((keyField_list x).1 (h.trans kf_allow)).resolve_right h1⟩
  · exact ⟨.inr (.inl rfl), .inr kf_susp, fun x _ h2 h => ((keyField_list x).2 (h.trans kf_susp)).resolve_right h2⟩

/-- the policy an operator expects after an operation (the specification) -/
def specOp (m : Policy) : Op → Policy × R
  | .addAllow pk => if m.allow.contains pk then (m, .errDup) else if !validPubkey pk then (m, .errInvalid)
      else ({ m with allow := m.allow ++ [pk] }, .ok)
  | .addSusp pk => if m.susp.contains pk then (m, .errDup) else if !validPubkey pk then (m, .errInvalid)
      else ({ m with susp := m.susp ++ [pk] }, .ok)
  | .removeAllow pk => if !validPubkey pk then (m, .errInvalid) else if !m.allow.contains pk then (m, .errAbsent)
      else ({ m with allow := m.allow.filter (· ≠ pk) }, .ok)
  | .removeSusp pk => if !validPubkey pk then (m, .errInvalid) else if !m.susp.contains pk then (m, .errAbsent)
      else ({ m with susp := m.susp.filter (· ≠ pk) }, .ok)
  | .setNew b => ({ m with allowNew := b }, .ok)
  | .reload => (m, .ok)

/-- what holds between operations: a path is set, file and memory agree, the file is in the documented format -/
structure Good (s : St) : Prop where
  path : s.hasPath = true
  sync : Sync s
  plain : Plain s.file.lines

/-- a good state through the entries of its file: memory is their fold, each converts, none is a list
    under its Go field name -/
theorem good_iff (s : St) : Good s ↔ s.hasPath = true ∧ ∃ E, Reads s.file.lines E ∧
    s.mem = E.foldl specStep Policy.default ∧ ∀ kv ∈ E, okKV kv = true ∧ kv.1 ≠ kAllowF ∧ kv.1 ≠ kSuspF := by
  constructor
  · rintro ⟨hp, hs, hpl⟩
    obtain ⟨as, hc, hok, hm⟩ := (meaning_eq_some _ _).mp ((parse_meaning s.file).symm.trans hs)
    exact ⟨hp, _, ⟨as, hc, (hpl as hc).1, rfl⟩, hm.symm,
      fun kv h => ⟨List.all_eq_true.mp hok kv h, (hpl as hc).2 kv h⟩⟩
  · rintro ⟨hp, _, ⟨as, hc, hh, rfl⟩, hm, hE⟩
    refine ⟨hp, (parse_meaning s.file).trans ((meaning_eq_some _ _).mpr ⟨as, hc, ?_, hm.symm⟩), ?_⟩
    · exact List.all_eq_true.mpr fun kv h => (hE kv h).1
    · intro as' hc'
      cases hc.symm.trans hc'
      exact ⟨hh, fun kv h => (hE kv h).2⟩

/-- appending the line an operation writes -/
theorem good_addLine {s : St} (hg : Good s) {k v : Str} (hk : OpKey k) (hv : Clean v) (hok : okKV (k, v) = true) :
    Good { s with file := addLine s.file (k ++ '=' :: v), mem := specStep s.mem (k, v) } := by
  obtain ⟨hp, E, hr, hm, hE⟩ := (good_iff s).mp hg
  refine (good_iff _).mpr ⟨hp, _, reads_addLine hr hk hv, by rw [hm, List.foldl_append]; rfl, fun kv h => ?_⟩
  rcases List.mem_append.mp h with h | h
  · exact hE kv h
  · cases List.mem_singleton.mp h
    exact ⟨hok, opkey_not_alias k hk⟩

/-- removing an option the way `removeLineFromFile` does: memory follows by any relation `R` that every kept
    entry preserves and the dropped entry absorbs -/
theorem good_removeLine {s : St} (hg : Good s) {k v : Str} (hk : OpKey k) (hv : Clean v)
    (R : Policy → Policy → Prop) (h0 : R Policy.default Policy.default)
    (hkeep : ∀ x : Str × Str, x.1 ≠ kAllowF → x.1 ≠ kSuspF → x ≠ (k, v) →
      ∀ p q, R p q → R (specStep p x) (specStep q x))
    (hdrop : ∀ p q, R p q → R p (specStep q (k, v))) :
    ∃ p, R p s.mem ∧ Good { s with file := removeLine s.file k v, mem := p } := by
  obtain ⟨hp, E, hr, hm, hE⟩ := (good_iff s).mp hg
  refine ⟨_, ?_, (good_iff _).mpr
    ⟨hp, _, reads_removeLine hr hk hv, rfl, fun kv h => hE kv (List.mem_filter.mp h).1⟩⟩
  rw [hm, List.foldl_filter]
  refine List.foldl_rel (r := R) h0 fun x hx p q hpq => ?_
  split
  · next hx' => exact hkeep x (hE x hx).2.1 (hE x hx).2.2 (by simpa using hx') p q hpq
  · next hx' =>
    have : x = (k, v) := by simpa using hx'
    subst this
    exact hdrop p q hpq

theorem good_removeLine_list {s : St} (hg : Good s) {k v : Str} (hk : k = kAllow ∨ k = kSusp) (hv : Clean v) :
    Good { s with file := removeLine s.file k v, mem := specErase s.mem (k, v) } := by
  obtain ⟨hop, hl, hone⟩ := listKey_facts hk
  obtain ⟨p, rfl, hp⟩ := good_removeLine hg hop hv (fun p q => p = specErase q (k, v))
    (by rcases hl with h | h <;> simp [specErase, h, Policy.default])
    (fun x h1 h2 hx p q hpq => by
      rw [hpq, specErase_specStep q k v x hl fun hf hv' => hx (Prod.ext (hone x.1 h1 h2 hf) hv')])
    (fun p q hpq => by rw [hpq, specErase_specStep_self q k v hl])
  exact hp

/-- removing a setting of `allow_new_swaps` can change that flag only -/
theorem good_removeLine_new {s : St} (hg : Good s) {v : Str} (hv : Clean v) :
    ∃ c, Good { s with file := removeLine s.file kNew v, mem := { s.mem with allowNew := c } } := by
  obtain ⟨p, ⟨c, rfl⟩, hp⟩ := good_removeLine hg (.inr (.inr rfl)) hv (fun p q => ∃ c, p = { q with allowNew := c })
    ⟨_, rfl⟩
    (fun x _ _ _ p q ⟨c, hpq⟩ => hpq ▸ specStep_allowNew q c x)
    (fun p q ⟨c, hpq⟩ => ⟨c, by simp only [hpq, specStep, kf_new]⟩)
  exact ⟨c, hp⟩

theorem reload_of_good {s : St} {f' : File} {p' : Policy} (hg' : Good { s with file := f', mem := p' }) :
    reload { s with file := f' } = ({ s with file := f', mem := p' }, .ok) := by
  have hp : s.hasPath = true := hg'.path
  have hs : parse f' = some p' := hg'.sync
  simp [reload, hp, hs]

/-- what `C25_step` says of one operation -/
def Refines (s : St) (op : Op) : Prop :=
  (step s op).2 = (specOp s.mem op).2 ∧ (step s op).1.mem = (specOp s.mem op).1 ∧
  ((step s op).2 ≠ .ok → (step s op).1 = s) ∧ Good (step s op).1

theorem refines_same {s : St} {op : Op} (hg : Good s) (r : R) (e1 : step s op = (s, r))
    (e2 : specOp s.mem op = (s.mem, r)) : Refines s op := by
  unfold Refines; rw [e1, e2]; exact ⟨rfl, rfl, fun _ => rfl, hg⟩

theorem refines_ok {s s' : St} {op : Op} (hg' : Good s') (e1 : step s op = (s', .ok))
    (e2 : specOp s.mem op = (s'.mem, .ok)) : Refines s op := by
  unfold Refines; rw [e1, e2]; exact ⟨rfl, rfl, fun h => absurd rfl h, hg'⟩

/-- `addAllow` and `addSusp` are one operation on the list option `k`; `d`: the peer is on the list already -/
theorem refines_add {s : St} {op : Op} (hg : Good s) {k : Str} (hk : k = kAllow ∨ k = kSusp) (d : Bool) (pk : Str)
    (hstep : step s op = if d then (s, .errDup) else if !s.hasPath then (s, .errNoFile)
      else if !validPubkey pk then (s, .errInvalid) else reload { s with file := addLine s.file (k ++ '=' :: pk) })
    (hspec : specOp s.mem op = if d then (s.mem, .errDup)
      else if !validPubkey pk then (s.mem, .errInvalid) else (specStep s.mem (k, pk), .ok)) : Refines s op := by
  obtain ⟨hop, hl, _⟩ := listKey_facts hk
  cases d with
  | true => exact refines_same hg .errDup (by simp [hstep]) (by simp [hspec])
  | false =>
    cases h2 : validPubkey pk with
    | false => exact refines_same hg .errInvalid (by simp [hstep, h2, hg.path]) (by simp [hspec, h2])
    | true =>
      have hg' := good_addLine hg hop (clean_of_valid pk h2) (by rcases hl with h | h <;> simp [okKV, h])
      exact refines_ok hg' (by simpa [hstep, h2, hg.path] using reload_of_good hg') (by simp [hspec, h2])

/-- likewise `removeAllow` and `removeSusp` -/
theorem refines_remove {s : St} {op : Op} (hg : Good s) {k : Str} (hk : k = kAllow ∨ k = kSusp) (d : Bool) (pk : Str)
    (hstep : step s op = if !validPubkey pk then (s, .errInvalid) else if !d then (s, .errAbsent)
      else if !s.hasPath then (s, .errNoFile) else reload { s with file := removeLine s.file k pk })
    (hspec : specOp s.mem op = if !validPubkey pk then (s.mem, .errInvalid)
      else if !d then (s.mem, .errAbsent) else (specErase s.mem (k, pk), .ok)) : Refines s op := by
  cases h2 : validPubkey pk with
  | false => exact refines_same hg .errInvalid (by simp [hstep, h2]) (by simp [hspec, h2])
  | true =>
    cases d with
    | false => exact refines_same hg .errAbsent (by simp [hstep, h2]) (by simp [hspec, h2])
    | true =>
      have hg' := good_removeLine_list hg hk (clean_of_valid pk h2)
      exact refines_ok hg' (by simpa [hstep, h2, hg.path] using reload_of_good hg') (by simp [hspec, h2])

theorem parseBool_boolStr (b : Bool) : parseBool (boolStr b) = some b := by cases b <;> decide

/-- `setNew` removes the opposite setting, then appends the wanted one, which wins as the last -/
theorem refines_setNew {s : St} (hg : Good s) (b : Bool) : Refines s (.setNew b) := by
  by_cases h1 : s.mem.allowNew = b
  · exact refines_same hg .ok (by simp [step, setNew, h1]) (by simp [specOp, ← h1])
  · obtain ⟨c, hg1⟩ := good_removeLine_new hg (clean_bool (!b))
    have hg2 := good_addLine hg1 (.inr (.inr rfl)) (clean_bool b) (by simp [okKV, kf_new, parseBool_boolStr])
    have hm : specStep { s.mem with allowNew := c } (kNew, boolStr b) = { s.mem with allowNew := b } := by
      simp [specStep, kf_new, parseBool_boolStr]
    simp only [hm] at hg2
    exact refines_ok hg2 (by simpa [step, setNew, newLine, h1, hg.path] using reload_of_good hg2) rfl

/-- **C25, one operation**: from a good state every operation answers and changes the policy in memory
    exactly as the specification says, a rejected operation changes nothing (memory or file), and the
    resulting state is good again (in particular file and memory agree: a reload or restart yields the
    same effective policy) -/
theorem C25_step (s : St) (op : Op) (hg : Good s) :
    (step s op).2 = (specOp s.mem op).2 ∧ (step s op).1.mem = (specOp s.mem op).1 ∧
    ((step s op).2 ≠ .ok → (step s op).1 = s) ∧ Good (step s op).1 := by
  cases op with
  | addAllow pk =>
    exact refines_add hg (.inl rfl) (s.mem.allow.contains pk) pk rfl rfl
  | addSusp pk =>
    exact refines_add hg (.inr rfl) (s.mem.susp.contains pk) pk rfl rfl
  | removeAllow pk =>
    exact refines_remove hg (.inl rfl) (s.mem.allow.contains pk) pk rfl rfl
  | removeSusp pk =>
    exact refines_remove hg (.inr rfl) (s.mem.susp.contains pk) pk rfl rfl
  | setNew b => exact refines_setNew hg b
  | reload => exact refines_same hg .ok (reload_of_good (s := s) hg) rfl

/-- running operation sequences: the implementation model and the specification side by side -/
def run (s : St) : List Op → St × List R
  | [] => (s, [])
  | op :: r => ((run (step s op).1 r).1, (step s op).2 :: (run (step s op).1 r).2)
def specRun (m : Policy) : List Op → Policy × List R
  | [] => (m, [])
  | op :: r => ((specRun (specOp m op).1 r).1, (specOp m op).2 :: (specRun (specOp m op).1 r).2)

/-- **C25, every history**: for all sequences of operations (including reloads, invalid pubkeys,
    duplicates) from a good state, every answer and the final policy in memory are the specification's,
    and file and memory agree at the end (hence after every prefix) -/
theorem C25_run (s : St) (ops : List Op) (hg : Good s) :
    (run s ops).2 = (specRun s.mem ops).2 ∧ (run s ops).1.mem = (specRun s.mem ops).1 ∧ Good (run s ops).1 := by
  induction ops generalizing s with
  | nil => exact ⟨rfl, rfl, hg⟩
  | cons op r ih =>
    obtain ⟨h1, h2, _, h4⟩ := C25_step s op hg
    obtain ⟨i1, i2, i3⟩ := ih (step s op).1 h4
    simp only [run, specRun]
    rw [← h2]
    exact ⟨by rw [h1, i1], i2, i3⟩

/-- the next request sees the effect -/
theorem C25_next_request_add (s : St) (pk : Str) (hg : Good s) (h : (step s (.addAllow pk)).2 = .ok) :
    isPeerAllowed (step s (.addAllow pk)).1.mem pk = true := by
  obtain ⟨h1, h2, _, _⟩ := C25_step s (.addAllow pk) hg
  rw [h1] at h
  rw [h2]
  by_cases c1 : pk ∈ s.mem.allow
  · simp [specOp, c1] at h
  · by_cases c2 : validPubkey pk = true
    · simp [specOp, c1, c2, isPeerAllowed]
    · simp [specOp, c1, c2] at h

theorem C25_next_request_remove (s : St) (pk : Str) (hg : Good s) (h : (step s (.removeAllow pk)).2 = .ok) :
    isPeerAllowed (step s (.removeAllow pk)).1.mem pk = (step s (.removeAllow pk)).1.mem.acceptAll := by
  obtain ⟨h1, h2, _, _⟩ := C25_step s (.removeAllow pk) hg
  rw [h1] at h
  rw [h2]
  by_cases c2 : validPubkey pk = true
  · by_cases c1 : pk ∈ s.mem.allow
    · simp [specOp, c1, c2, isPeerAllowed]
    · simp [specOp, c1, c2] at h
  · simp [specOp, c2] at h

theorem C25_next_request_new (s : St) (b : Bool) (hg : Good s) :
    (step s (.setNew b)).2 = .ok ∧ (step s (.setNew b)).1.mem.allowNew = b := by
  obtain ⟨h1, h2, _, _⟩ := C25_step s (.setNew b) hg
  rw [h1, h2]
  exact ⟨rfl, rfl⟩

/-- without a policy file nothing is ever changed -/
theorem C25_nopath (s : St) (op : Op) (h : s.hasPath = false) : (step s op).1 = s := by
  cases op <;> simp [step, addAllow, addSusp, removeAllow, removeSusp, setNew, reload, h, apply_ite Prod.fst]

/-- a decidable form of `Plain` and of `Good`, for concrete files -/
def plainB (lines : List Str) : Bool :=
  match classifyAll lines with
  | none => true
  | some as => !hasHeader as && (effKV as).all (fun kv => decide (kv.1 ≠ kAllowF) && decide (kv.1 ≠ kSuspF))

theorem plain_of_plainB (lines : List Str) (h : plainB lines = true) : Plain lines := by
  intro as has
  unfold plainB at h
  rw [has] at h
  simp only [Bool.and_eq_true, Bool.not_eq_true', List.all_eq_true, decide_eq_true_eq] at h
  exact ⟨h.1, fun kv hkv => h.2 kv hkv⟩

def goodB (s : St) : Bool := s.hasPath && decide (parse s.file = some s.mem) && plainB s.file.lines

theorem good_of_goodB (s : St) (h : goodB s = true) : Good s := by
  unfold goodB at h
  simp only [Bool.and_eq_true, decide_eq_true_eq] at h
  exact ⟨h.1.1, h.1.2, plain_of_plainB _ h.2⟩

/-- a freshly created (empty) policy file is a good state -/
theorem C25_fresh_good : Good ⟨⟨[], false⟩, Policy.default, true⟩ := good_of_goodB _ (by decide)

-- non-vacuity: a hand-written file (comment, spaces around '=', CR at a line end) is a good state, and a
-- history on it behaves as specified
def pkA : Str := '0' :: '2' :: List.replicate 64 '1'
def pkB : Str := '0' :: '3' :: List.replicate 64 '2'
def demo : St :=
  ⟨⟨[['#', ' ', 'p'], allowLine pkA, kAcc ++ [' ', '=', ' '] ++ vFalse ++ ['\r'], [' '] ++ kSusp ++ [' ', '=', ' ', ' '] ++ pkB], false⟩,
   ⟨[pkA], [pkB], false, 100000000, 0, true⟩, true⟩
example : Good demo := good_of_goodB _ (by decide +kernel)
example : (run demo [.addAllow pkB, .addAllow pkB, .removeAllow pkA, .setNew false, .removeSusp pkB, .addSusp ['x'], .reload]).2
    = [.ok, .errDup, .ok, .ok, .ok, .errInvalid, .ok] := by decide +kernel
example : (run demo [.addAllow pkB, .removeAllow pkA, .setNew false, .removeSusp pkB]).1.mem
    = ⟨[pkB], [], false, 100000000, 0, false⟩ := by decide +kernel

end PsVerif.Props.C25
