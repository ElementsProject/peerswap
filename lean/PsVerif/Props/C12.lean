import PsVerif.Model.Amounts
import PsVerif.Model.Timelock
import PsVerif.Proofs.Timelock
/-
C12  Neither side pays more than it agreed to.

Model: Model/Amounts.lean.  The statements carry the no-wrap hypotheses the proofs force
(amount < 2^63/1000, fee estimate < 2^51 for the float64 product).  The hypothesis `premium ≥ -amount` that
the proofs forced at first marked a genuine — and exploitable — defect: an agreement premium below −amount
passed CheckPremiumAmount, the claim amount wrapped to 2^64−k, and k can be chosen so that the ×1000 of the
invoice check wraps onto any payable amount (`C12_old_rule_exploit`; replayed on the real machines: 1 000 000
sat paid for a 100 000 sat swap with a 1 % limit).  Repaired in /repo (`checkPremiumLowerBound`); the
hypothesis is now a CONSEQUENCE of the decision (`premium_not_too_low`).
-/
namespace PsVerif.Props.C12
open PsVerif PsVerif.Model

theorem addPremium_exact (amount : Nat) (premium : Int) (ha : amount < 2 ^ 63)
    (hlo : -(amount : Int) ≤ premium) (hhi : (amount : Int) + premium < 2 ^ 63) :
    (addPremium amount premium : Int) = amount + premium := by
  unfold addPremium
  rw [u64ToI64_eq _ ha, wrapI64_eq _ (by omega) hhi, wrapU64i_eq _ (by omega) (by omega)]
  omega

/-- what `checkPremiumLowerBound` passing gives -/
theorem premium_not_too_low (amount : Nat) (premium : Int) (h : premiumTooLow amount premium = false) :
    amount < 2 ^ 63 ∧ -(amount : Int) < premium := by
  unfold premiumTooLow at h
  simp only [Bool.or_eq_false_iff, decide_eq_false_iff_not] at h
  have ha : amount < 2 ^ 63 := by omega
  rw [u64ToI64_eq _ ha, wrapI64_eq _ (by omega) (by omega)] at h
  exact ⟨ha, by omega⟩

theorem feeDecision_pay {amount : Nat} {premium limit : Int} {feeMsat spendable expectedFee : Nat}
    (h : feeDecision amount premium limit feeMsat spendable expectedFee = .pay) :
    premium ≤ limit ∧ premiumTooLow amount premium = false ∧
      wrapU64 (wrapU64 (amount * 1000) + feeMsat) ≤ spendable ∧ feeMsat / 1000 ≤ expectedFee * 3 := by
  unfold feeDecision at h
  obtain ⟨h1, h⟩ := guard_passed h nofun
  obtain ⟨h2, h⟩ := guard_passed h nofun
  obtain ⟨h3, h⟩ := guard_passed h nofun
  obtain ⟨h4, -⟩ := guard_passed h nofun
  exact ⟨by omega, by simpa using h2, by omega, by omega⟩

theorem inDecision_some {amount : Nat} {premium limit : Int} {lock ask : Nat}
    (h : inDecision amount premium limit = some (lock, ask)) :
    premium ≤ limit ∧ premiumTooLow amount premium = false ∧
      lock = openingAmountIn amount premium ∧ ask = wrapU64 (amount * 1000) := by
  unfold inDecision at h
  obtain ⟨h1, h⟩ := guard_passed h nofun
  obtain ⟨h2, h⟩ := guard_passed h nofun
  cases h
  exact ⟨by omega, by simpa using h2, rfl, rfl⟩

/-- swap-out initiator: it pays the fee invoice only if the premium is within its limit and does not take
    the whole amount away, the channel can carry amount + fee, and the fee is at most three times its own
    estimate -/
theorem C12_out_initiator_fee (amount : Nat) (premium limit : Int) (feeMsat spendable expectedFee : Nat)
    (ha : amount * 1000 + feeMsat < 2 ^ 64)
    (h : feeDecision amount premium limit feeMsat spendable expectedFee = .pay) :
    premium ≤ limit ∧ -(amount : Int) < premium ∧ amount * 1000 + feeMsat ≤ spendable ∧ feeMsat / 1000 ≤ 3 * expectedFee := by
  obtain ⟨h1, h2, h3, h4⟩ := feeDecision_pay h
  rw [wrapU64_eq (amount * 1000) (Nat.lt_of_le_of_lt (Nat.le_add_right _ _) ha), wrapU64_eq _ ha] at h3
  exact ⟨h1, (premium_not_too_low amount premium h2).2, h3, by omega⟩

/-- … and the claim invoice it accepts afterwards is for exactly amount + premium, which is positive and at
    most amount + limit: NO hypothesis on the premium — whatever the peer sends, if the node went on to pay
    the fee, the claim it accepts is within what it agreed to -/
theorem C12_out_initiator_claim (amount : Nat) (premium limit : Int) (feeMsat spendable expectedFee : Nat)
    (msat : Nat) (cltv : Int) (maxFinal : Nat)
    (ha : amount < 9223372036854775) (hhi : (amount : Int) + limit < 9223372036854775)
    (hd : feeDecision amount premium limit feeMsat spendable expectedFee = .pay)
    (hv : validateClaimInvoice msat cltv (claimAmountOut amount premium) maxFinal = .ok) :
    (msat : Int) = ((amount : Int) + premium) * 1000 ∧ 0 < (msat : Int) ∧ (msat : Int) ≤ ((amount : Int) + limit) * 1000 := by
  obtain ⟨h1, h2, -⟩ := feeDecision_pay hd
  obtain ⟨-, hlo⟩ := premium_not_too_low amount premium h2
  have hx := addPremium_exact amount premium (by omega) (by omega) (by omega)
  -- the claim amount is below 2^63/1000, so the ×1000 of the invoice check does not wrap either
  obtain ⟨-, -, hm⟩ := (validateClaimInvoice_ok ..).mp hv
  rw [claimAmountOut, wrapU64_eq _ (by omega)] at hm
  omega

/-- swap-in initiator: it locks exactly amount + premium (0 < amount + premium ≤ amount + limit) and asks for
    exactly amount — again with no hypothesis on the premium -/
theorem C12_in_initiator (amount : Nat) (premium limit : Int) (lock ask : Nat)
    (ha : amount < 9223372036854775) (hhi : (amount : Int) + limit < 2 ^ 63)
    (h : inDecision amount premium limit = some (lock, ask)) :
    premium ≤ limit ∧ (lock : Int) = amount + premium ∧ 0 < (lock : Int) ∧ (lock : Int) ≤ amount + limit ∧ ask = amount * 1000 := by
  obtain ⟨h1, h2, rfl, rfl⟩ := inDecision_some h
  obtain ⟨-, hlo⟩ := premium_not_too_low amount premium h2
  have hx := addPremium_exact amount premium (by omega) (by omega) (by omega)
  rw [openingAmountIn, wrapU64_eq _ (by omega)]
  omega

/-- the responder charges `ppmCompute` of its own rate (C27 says which rate) -/
theorem C12_responder_exact (s : RateStore) (peer : String) (a o amt : Nat) :
    settingCompute s peer a o amt = (getRate s peer a o).map (ppmCompute amt) := rfl

/-- a premium of −(amount+1) — which the code before the repair accepted, making the amount 2^64−1 — is refused -/
theorem C12_premium_below_minus_amount_refused :
    inDecision 1000000 (-1000001) 0 = none ∧ inDecision 1000000 (-1000000) 0 = none
    ∧ feeDecision 100000 (-2305843009212793952) 1000 500000 5000000000 500 = .premiumTooLow := by decide

/-- the arithmetic of the old rule, as exploited: amount 100 000 sat, premium −2305843009212793952 (≤ any
    limit): the claim amount is 2^64 − 2305843009212693952 sat and its ×1000 wraps onto 1 000 000 000 msat — the
    invoice check of the old code accepted a perfectly payable claim invoice of ten times the swap amount -/
theorem C12_old_rule_exploit :
    claimAmountOut 100000 (-2305843009212793952) = 18446744073709551616 - 2305843009212693952
    ∧ wrapU64 (claimAmountOut 100000 (-2305843009212793952) * 1000) = 1000000000 := by decide

example : feeDecision 1000000 1000 50000 500000 5000000000 500 = .pay := by decide
example : feeDecision 1000000 1000 50000 1501000 5000000000 500 = .feeTooHigh := by decide

end PsVerif.Props.C12
