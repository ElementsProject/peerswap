import PsVerif.Model.Spend
import PsVerif.Props.C03
import PsVerif.Gen.Consts
import PsVerif.Gen.Tables
import PsVerif.Gen.Adapters
/-
C08  The opening_tx_broadcasted message describes the broadcast transaction exactly.

Model: Model/Spend.lean (`findVoutBtc`, `findVoutLq`, `openingMsg`) and the GENERATED invoice parameters
(`Gen.invoiceParams`: GetInvoiceExpiry / GetInvoiceCltv evaluated by the running code for every chain and version).
Tie: slice `openmsg` — the REAL lnd.Client.CreateOpeningTransaction (over fake FundPsbt / FinalizePsbt /
PublishTransaction) and the REAL LiquidOnChain.CreateOpeningTransaction (over a fake wallet) under funding plans that
move the swap output around; monitor C08 — the real maker machines on those adapters: every message sent is compared
with the transaction that reached the back-end and with the invoice created in the Lightning back-end.
-/
namespace PsVerif.Props.C08
open PsVerif PsVerif.Gen PsVerif.Model.OpeningCheck PsVerif.Model.Spend PsVerif.Props.C03

/-- Bitcoin: the reported index is that of an output of the amount to the wanted script, for EVERY funded
    transaction — wherever the wallet put change and whatever its value -/
theorem C08_index_btc {S : Type} [DecidableEq S] (amount : Nat) (want : S) (outs : List (BtcOut S)) (i : Nat)
    (h : findVoutBtc amount want outs = some i) :
    ∃ o, outs[i]? = some o ∧ o.value = wrapI64 (amount : Int) ∧ o.script = want := by
  obtain ⟨o, ho, hf⟩ := find?_of_findIdx? h
  exact ⟨o, ho, by simpa using List.find?_some hf⟩

/-- … and an index is reported whenever the wallet did put the requested output into the transaction -/
theorem C08_index_btc_total {S : Type} [DecidableEq S] (amount : Nat) (want : S) (outs : List (BtcOut S))
    (h : ∃ o ∈ outs, o.value = wrapI64 (amount : Int) ∧ o.script = want) : (findVoutBtc amount want outs).isSome = true := by
  simpa [findVoutBtc, List.findIdx?_isSome] using h

/-- Liquid: the reported index is that of the first output carrying the swap script -/
theorem C08_index_lq {S : Type} [DecidableEq S] (want : S) (outs : List (LqOut S)) (i : Nat)
    (h : findVoutLq want outs = some i) : ∃ o, outs[i]? = some o ∧ o.script = want := by
  obtain ⟨o, ho, hf⟩ := find?_of_findIdx? h
  exact ⟨o, ho, by simpa using List.find?_some hf⟩

theorem C08_index_lq_total {S : Type} [DecidableEq S] (want : S) (outs : List (LqOut S))
    (h : ∃ o ∈ outs, o.script = want) : (findVoutLq want outs).isSome = true := by
  simpa [findVoutLq, List.findIdx?_isSome] using h

/-- the message carries what the adapter reported and the invoice made for the same hash: exactly the claim
    amount, expiry 24 h / 1 h, and the blinding key on Liquid only -/
theorem C08_message {H T K : Type} (chain : PsVerif.Model.Spend.Chain) (claimSat finalCltv : Nat) (hash : H) (txid : T) (vout : Nat) (bk : K)
    (hc : claimSat * 1000 < 18446744073709551616) :
    let m := openingMsg chain claimSat finalCltv hash txid vout bk
    m.txid = txid ∧ m.scriptOut = vout ∧ m.invoiceMsat = claimSat * 1000 ∧ m.invoiceHash = hash ∧ m.invoiceCltv = finalCltv ∧
    m.invoiceExpiry = (match chain with | .btc => 86400 | .lbtc => 3600) ∧
    (m.blindingKey = some bk ↔ chain = .lbtc) := by
  refine ⟨rfl, rfl, ?_, rfl, rfl, ?_, ?_⟩
  · exact wrapU64_eq _ hc
  · cases chain <;> rfl
  · cases chain <;> simp [openingMsg]

/-- the invoice parameters the running code uses, for both protocol versions it speaks: 24 h / 503 on Bitcoin,
    1 h / 29 on Liquid — and they are the model's expiry -/
theorem C08_invoice_params : ∀ v ∈ [6, 7],
    invoiceParams .btc v = (invoiceExpiry .btc, 503) ∧ invoiceParams .lbtc v = (invoiceExpiry .lbtc, 29) := by decide

/-- the message is built and sent by exactly one action, in the makers' broadcast states -/
theorem C08_where_built :
    ∀ r : Role, ((table r).filter (fun row => row.acts.contains .CreateAndBroadcastOpeningTransaction)).map (·.st) =
      (match r with
        | .SwapInSender => [.State_SwapInSender_BroadcastOpeningTx]
        | .SwapOutReceiver => [.State_SwapOutReceiver_BroadcastOpeningTx]
        | _ => []) := by
  intro r; cases r <;> decide

/-- both Bitcoin adapters take the index from GetVoutAndVerify on the funded transaction (error checked) -/
theorem C08_adapter_calls : ["cln", "lnd"].all (fun a => (callsOf a).filter (fun c => c.1 == "CreateOpeningTransaction") ==
    [("CreateOpeningTransaction", "CreateOpeningAddress", ["swapParams", "onchain.BitcoinCsv"], ["addr", "err"], true),
     ("CreateOpeningTransaction", "GetFeeSatsFromTx", ["PSBT", "OPENINGTX"], ["fee", "err"], true),
     ("CreateOpeningTransaction", "GetVoutAndVerify", ["OPENINGTX", "swapParams"], ["_", "vout", "err"], true)]) = true := by decide +kernel

-- non-vacuity: change of the same value in front of the swap output
example : findVoutBtc 1000 "w" [⟨1000, "change"⟩, ⟨5, "x"⟩, ⟨1000, "w"⟩] = some 2 := by decide
example : findVoutLq "w" [⟨"c", none, true, false, false⟩, ⟨"w", some ⟨true, 1000⟩, true, false, true⟩] = some 1 := by decide

end PsVerif.Props.C08
