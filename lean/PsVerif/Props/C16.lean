import PsVerif.Model.AbsLv
import PsVerif.Proofs.Search
import PsVerif.Gen.ActionEvents
/-
C16  Every swap eventually terminates when restarts happen from time to time.

Model: the abstract engine over the GENERATED state tables with the flags of Model/AbsLv.lean (the three
in-memory triggers a waiting swap can hold: negotiation timer, confirmation watch, CSV watch).
`AbsLv.sys` is the full behaviour (every peer message, timer, chain and payment event at every rest point,
every service result, crashes anywhere, restarts); `AbsLv.qsuccs` is what can still happen once the peer has
gone silent: a dead process is restarted, an event in flight is handled with the local services answering,
a swap at rest receives one of its ARMED triggers (timers fire, watchers report), with no trigger armed
the chain advances past the swap's payment window (`late`), and after that the node is restarted (from time
to time).
Tie: slice `absLv` (trace inclusion of the real machines' persisted configurations, flags read from the
simulated timeout service and chain watchers) and monitor C16 (silence after every prefix on the real code).
-/
namespace PsVerif.Props.C16
open PsVerif.Gen PsVerif.Model.Abs PsVerif.Model.AbsLv

/-- number of quiet steps within which every continuation has finished -/
def bound : Nat := 10

def cert (r : Role) : Cert F := reachCert (sys (table r)) 200

def good (r : Role) (m : MC F) : Bool := terminates (table r) bound m && !m.f.unknownAct

/-- one evaluation per role, so that each stays well inside the default heartbeat limit; the facts read off two
    of the certificates are the non-vacuity examples below -/
theorem cert_ok_outSender : certified (sys (table .SwapOutSender)) 200 (good .SwapOutSender)
    (fun c => c.mem ⟨.State_SwapOutSender_AwaitTxBroadcastedMessage, F.init, none, false, true⟩) = true := by decide +kernel
theorem cert_ok_outReceiver : certified (sys (table .SwapOutReceiver)) 200 (good .SwapOutReceiver) = true := by decide +kernel
theorem cert_ok_inSender : certified (sys (table .SwapInSender)) 200 (good .SwapInSender)
    (fun c => c.mem ⟨.State_SwapInSender_AwaitClaimPayment, (F.init.setCsvWatch true), none, true, true⟩) = true := by decide +kernel
theorem cert_ok_inReceiver : certified (sys (table .SwapInReceiver)) 200 (good .SwapInReceiver) = true := by decide +kernel

/-- **C16**: in every role, after every history — any peer behaviour, any order of events, any service
    failures, crashes at any point, any number of restarts — the configuration reached is such that once the
    peer is silent every continuation (restarts, armed timers, chain events, local actions with the services
    answering) reaches a terminal state, with the swap out of the active map (its channel released), within
    `bound` steps; and every action chain the generated tables contain has a summary in the model -/
theorem C16_terminates (r : Role) (m : MC F) (h : Reach (sys (table r)) m) :
    terminates (table r) bound m = true ∧ m.f.unknownAct = false := by
  have : good r m = true :=
    match r with
    | .SwapOutSender => (certified_spec cert_ok_outSender).1 m h
    | .SwapOutReceiver => (certified_spec cert_ok_outReceiver).1 m h
    | .SwapInSender => (certified_spec cert_ok_inSender).1 m h
    | .SwapInReceiver => (certified_spec cert_ok_inReceiver).1 m h
  simpa [good] using this

/-- a quiet run: each configuration is a quiet successor of the one before -/
def QRun (tb : List Row) : MC F → List (MC F) → Prop
  | _, [] => True
  | m, m' :: rest => m' ∈ qsuccs tb m ∧ QRun tb m' rest

/-- what `terminates` means: every quiet run of `n` steps passes through a terminal configuration, and a
    non-terminal configuration always has a quiet successor (nothing waits for the peer) -/
theorem terminates_sound (tb : List Row) : ∀ (n : Nat) (m : MC F), terminates tb n m = true →
    ∀ run : List (MC F), QRun tb m run → run.length = n → ∃ x ∈ m :: run, terminal x = true
  | 0, m, h, run, _, hl => by
    have : run = [] := List.eq_nil_of_length_eq_zero hl
    subst this
    exact ⟨m, List.mem_cons_self, by simpa [terminates] using h⟩
  | n + 1, m, h, run, hr, hl => by
    unfold terminates at h
    by_cases ht : terminal m = true
    · exact ⟨m, List.mem_cons_self, ht⟩
    · simp only [ht, Bool.false_or, Bool.and_eq_true, Bool.not_eq_true', List.all_eq_true] at h
      cases run with
      | nil => simp at hl
      | cons m' rest =>
        obtain ⟨hm', hrest⟩ := hr
        have hlen : rest.length = n := by simpa using hl
        obtain ⟨x, hx, hxt⟩ := terminates_sound tb n m' (h.2 m' hm') rest hrest hlen
        exact ⟨x, List.mem_cons_of_mem _ hx, hxt⟩

theorem terminates_progress (tb : List Row) (n : Nat) (m : MC F) (h : terminates tb (n + 1) m = true)
    (ht : terminal m = false) : qsuccs tb m ≠ [] := by
  unfold terminates at h
  simp only [ht, Bool.false_or, Bool.and_eq_true, Bool.not_eq_true'] at h
  intro he
  rw [he] at h
  simp at h

/-- corollary in words: from every reachable configuration, every run of `bound` quiet steps ends the swap -/
theorem C16_every_quiet_run_ends (r : Role) (m : MC F) (h : Reach (sys (table r)) m)
    (run : List (MC F)) (hr : QRun (table r) m run) (hl : run.length = bound) :
    ∃ x ∈ m :: run, terminal x = true :=
  terminates_sound (table r) bound m (C16_terminates r m h).1 run hr hl

-- non-vacuity: the waits that need a trigger are reachable, e.g. a maker resting with its CSV watch armed
example : (cert .SwapInSender).mem ⟨.State_SwapInSender_AwaitClaimPayment, (F.init.setCsvWatch true), none, true, true⟩ = true :=
  (certified_spec cert_ok_inSender).2
example : (cert .SwapOutSender).mem ⟨.State_SwapOutSender_AwaitTxBroadcastedMessage, F.init, none, false, true⟩ = true :=
  (certified_spec cert_ok_outSender).2


def resultEvents (a : Act) : List Ev :=
  match actionReturns.find? (fun r => r.1 == a.name) with
  | some r => r.2.1
  | none => []

/-- (role, state, action, event): the action chain of the state can return the event, the event is neither `NoOp`
    nor `Event_Done` (which end the handling), and the state has no edge for it: `SendEvent` answers
    ErrEventRejected and the swap stays where it is until something else moves it -/
def unhandledResults : List (Role × St × Act × Ev) :=
  Role.all.flatMap fun r => (table r).flatMap fun row => row.acts.flatMap fun a =>
    ((resultEvents a).filter fun e => e != .NoOp && e != .Event_Done && (Model.Abs.nextSt (table r) row.st e).isNone).map fun e => (r, row.st, a, e)

/-- every action of the tables was found in the source, and every return statement was classified -/
theorem C16_action_facts_complete :
    (Act.all.filter fun a => (actionReturns.find? (fun r => r.1 == a.name)).isNone) = [] ∧
    (actionReturns.filter fun r => !r.2.2.2.isEmpty) = [] := by decide +kernel

/-- the complete list of action results no edge exists for.  All six are `Event_ActionFailed` from branches that
    need a chain to be disabled or the output script of already validated parameters to be uncomputable
    (`getOnChainServices`, `GetOutputScript` errors); a failing WALLET call in the claim states must come back as
    `Event_OnRetry` (next theorem).  A new entry here is a new way for a swap to get stuck. -/
theorem C16_unhandled_results : unhandledResults = [
    (.SwapOutSender, .State_SwapOutSender_ClaimSwap, .ClaimSwapTransactionWithPreimageAction, .Event_ActionFailed),
    (.SwapOutReceiver, .State_SwapOutReceiver_AwaitClaimInvoicePayment, .AwaitPaymentOrCsvAction, .Event_ActionFailed),
    (.SwapOutReceiver, .State_WaitCsv, .AwaitCsvAction, .Event_ActionFailed),
    (.SwapInSender, .State_SwapInSender_AwaitClaimPayment, .AwaitPaymentOrCsvAction, .Event_ActionFailed),
    (.SwapInSender, .State_WaitCsv, .AwaitCsvAction, .Event_ActionFailed),
    (.SwapInReceiver, .State_SwapInReceiver_ClaimSwap, .ClaimSwapTransactionWithPreimageAction, .Event_ActionFailed)] := by decide +kernel

/-- the actions that broadcast a claim keep the swap in its claim state and ask to be run again: exactly the
    preimage claim and the CSV claim can return `Event_OnRetry`, and every state they run in has the retry edge -/
theorem C16_claims_retry :
    (Act.all.filter fun a => (resultEvents a).contains .Event_OnRetry) = [.ClaimSwapTransactionWithCsv, .ClaimSwapTransactionWithPreimageAction] ∧
    (Role.all.all fun r => (table r).all fun row =>
      !(row.acts.any fun a => (resultEvents a).contains .Event_OnRetry) || Model.Abs.nextSt (table r) row.st .Event_OnRetry == some row.st) = true := by
  decide +kernel

end PsVerif.Props.C16
