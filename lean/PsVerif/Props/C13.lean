import PsVerif.Model.AbsAn
import PsVerif.Proofs.Search
/-
C13  The Liquid payment-window anchor is stored before the pubkey is revealed.

Model: the abstract engine over the GENERATED tables of both taker roles with the flags of
Model/AbsAn.lean (Liquid protocol-7 swaps).  "Durably stored before sent" is the engine's semantics
(fsm.go persists after every action and before the next one runs) — tied to the real code by the trace
inclusion on Liquid scenarios, where every persisted record and every send is observed in order.
"Never changed afterwards" and "no anchor, no payment" are flags the harness computes from the real
run and that no summary of the model ever sets: a real run that sets them breaks the correspondence.
The arithmetic side of "a swap without a stored anchor never pays" is C04_window (set = true is required).
-/
namespace PsVerif.Props.C13
open PsVerif.Gen PsVerif.Model.Abs PsVerif.Model.AbsAn

def sysOut := sys tableSwapOutSender
def sysIn := sys tableSwapInReceiver
def certOut := reachCert sysOut 80
def certIn := reachCert sysIn 80

/-- the fact read off each certificate is its witness in `C13_nonvacuous` -/
theorem certOut_ok : certified sysOut 80 holds (fun c => c.toList.any fun m => m.f.keySent && m.f.anchorRec) = true := by
  decide +kernel
theorem certIn_ok : certified sysIn 80 holds (fun c => c.toList.any fun m => m.f.keySent && m.f.anchorRec) = true := by
  decide +kernel

/-- swap-out initiator: in every history (crashes at every persisted point and inside the send, restarts,
    replays of any later event) the request carrying the pubkey has left the node only if the anchor is
    in the durable record -/
theorem C13_order_swap_out_sender : ∀ m, Reach sysOut m → holds m = true := (certified_spec certOut_ok).1

/-- swap-in responder: same for the agreement -/
theorem C13_order_swap_in_receiver : ∀ m, Reach sysIn m → holds m = true := (certified_spec certIn_ok).1

/-- the states that set the anchor and the states that send the key are different states of the generated
    tables, with the anchor-setting one strictly before (its only success edge leads to the sending one) -/
theorem C13_distinct_states :
    nextSt tableSwapOutSender .State_SwapOutSender_CreateSwap E_ActionSucceeded = some .State_SwapOutSender_SendRequest ∧
    nextSt tableSwapInReceiver .State_SwapInReceiver_CreateSwap E_ActionSucceeded = some .State_SwapInReceiver_SendAgreement ∧
    actsOf tableSwapOutSender .State_SwapOutSender_SendRequest = [.SendMessageAction] ∧
    actsOf tableSwapInReceiver .State_SwapInReceiver_SendAgreement = [.SendMessageAction] := by decide

theorem C13_nonvacuous :
    (certOut.toList.any fun m => m.f.keySent && m.f.anchorRec) = true ∧
    (certIn.toList.any fun m => m.f.keySent && m.f.anchorRec) = true :=
  ⟨(certified_spec certOut_ok).2, (certified_spec certIn_ok).2⟩

end PsVerif.Props.C13
