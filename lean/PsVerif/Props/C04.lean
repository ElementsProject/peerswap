import PsVerif.Model.Timelock
import PsVerif.Model.Route
import PsVerif.Proofs.Route
/-
C04  Liquid claim payments happen only inside the anchored window with bounded CLTV.

Model: `checkPaymentWindow`, `validateClaimInvoice`, `awaitTxConfLbtc`, `payIterationLbtc`
(swap/actions.go, swap/timelock.go), `clnRoute`, `lndRequest` (route builders), and the GENERATED policy
table `Gen.timelockPolicy` (every chain × every uint8 version, evaluated in the running code).
Tie: slices `timelock`, `route`, `paygate` (real taker machines driven to the pay decision).
-/
namespace PsVerif.Props.C04
open PsVerif PsVerif.Model PsVerif.Gen

/-- the Liquid protocol-7 policy as the code evaluates it -/
def lbtc7 : TimelockPolicy := { csv := 10080, window := 60, finalCltv := 29, maxTotal := 32, allowNew := true }

theorem C04_policy_lbtc7 : timelockPolicy .lbtc protocolVersion = some lbtc7 := by decide

/-- a claim payment call is made in a pay-loop iteration only when the anchor is stored and
    anchor ≤ tip < anchor + window; no wrap for any uint32 anchor/tip -/
theorem C04_window (p : TimelockPolicy) (set : Bool) (start now : Nat)
    (h : payIterationLbtc p set start now = true) :
    set = true ∧ start ≤ now ∧ now < start + p.window :=
  (checkPaymentWindow_ok set start now p.window).mp (by simpa [payIterationLbtc] using h)

/-- … and the same guard runs before the confirmation watch is registered and on recovery
    (`AwaitTxConfirmationAction`, `SetStartingBlockHeightAction` use `checkPaymentWindow`) -/
theorem C04_await_window (p : TimelockPolicy) (cltv : Int) (msat claim : Nat) (set : Bool) (start h : Nat)
    (hok : awaitTxConfLbtc p cltv msat claim set start h = .ok) :
    set = true ∧ start ≤ h ∧ h < start + p.window ∧ 0 ≤ cltv ∧ cltv.toNat ≤ p.finalCltv
      ∧ msat = wrapU64 (claim * 1000) := by
  rw [awaitTxConfLbtc_ok, validateClaimInvoice_ok, checkPaymentWindow_ok] at hok
  exact ⟨hok.2.1, hok.2.2.1, hok.2.2.2, hok.1⟩

/-- accepted invoices have a final CLTV of at most 29 (generated constant) -/
theorem C04_invoice (cltv : Int) (msat claim : Nat) (set : Bool) (start h : Nat)
    (hok : awaitTxConfLbtc lbtc7 cltv msat claim set start h = .ok) : 0 ≤ cltv ∧ cltv ≤ 29 := by
  have := C04_await_window lbtc7 cltv msat claim set start h hok
  simp only [lbtc7] at this
  omega

/-- CLN: with the policy's limit the single hop's delay is final+1 ≤ 32 -/
theorem C04_route_cln (payee : String) (amt : Nat) (cltv : Int) (scid : String) (r : List ClnHop)
    (h : clnRoute payee amt cltv scid lbtc7.maxTotal = .ok r) :
    ∃ hop, r = [hop] ∧ hop.delay = (cltv + 1).toNat ∧ hop.delay ≤ 32 ∧ 0 ≤ cltv := by
  obtain ⟨hr, hlim⟩ := clnRoute_ok h
  obtain ⟨h0, h1, h2⟩ := hlim (by decide)
  exact ⟨_, hr, clnDelay_eq cltv h0 h1, h2, h0⟩

/-- LND: with the policy's limit the payment requires final + BlockPadding ≤ 32 and carries CltvLimit 33 -/
theorem C04_route_lnd (payreq dest remote : String) (chanId : Nat) (cltv : Int) (pad : Nat) (q : LndReq)
    (h : lndRequest payreq dest remote chanId cltv pad lbtc7.maxTotal = .ok q) :
    0 ≤ cltv ∧ cltv.toNat + pad ≤ 32 ∧ q.cltvLimit = 33 ∧ q.maxParts = 1 := by
  obtain ⟨-, hq, hlim⟩ := lndRequest_ok h
  obtain ⟨h0, h1, -, h2⟩ := hlim (by decide)
  exact ⟨h0, h1, h2, by rw [hq]⟩

/-- timing: a payment made at Liquid tip `t` inside the window of anchor `a` carries an HTLC that the
    Lightning network resolves within the time of 32 Bitcoin blocks; with one-minute Liquid blocks and at
    least 32 Bitcoin blocks in any 10021 minutes this is before the maker's refund matures at
    `conf + csv`, for any confirmation height `conf > a` (the maker learns the taker's key only after
    the anchor is stored: C13).  The constants are the generated ones; the margin is exactly one minute. -/
theorem C04_resolves_before_refund (a t conf : Nat) (hw : a ≤ t ∧ t < a + lbtc7.window) (hc : a < conf) :
    (conf + lbtc7.csv) - t > 10021 ∧ lbtc7.maxTotal ≤ 32 := by
  simp only [lbtc7] at *
  omega

/-- legacy Liquid swaps (protocol 6) may never create a claim payment: the generated policy says so -/
theorem C04_legacy_never_pays :
    (timelockPolicy .lbtc 6).map (·.allowNew) = some false := by decide

-- non-vacuity
example : payIterationLbtc lbtc7 true 2000000 2000059 = true := by decide
example : payIterationLbtc lbtc7 true 2000000 2000060 = false := by decide
example : payIterationLbtc lbtc7 true 4294967290 4294967295 = true := by decide
example : awaitTxConfLbtc lbtc7 29 1000000000 1000000 true 100 120 = .ok := by decide

end PsVerif.Props.C04
