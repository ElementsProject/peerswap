import PsVerif.Model.Version
/-
C30  Fee rates respect the node's floor; version gates are ordered.

Model: `feeRate` (rate selection of onchain.(*BitcoinOnChain).GetFee), `feeFloor`
(onchain.DetermineFeeFloor), `compareVersions` (version.CompareVersionStrings).
Tie: differential slices `fee`, `version`; floors come from Gen/Consts.
-/
namespace PsVerif.Props.C30
open PsVerif PsVerif.Model

theorem feeRate_eq_max (est : Option Int) (fb fl : Int) : feeRate est fb fl = max (feeEstimate est fb) fl := by
  unfold feeRate
  split <;> omega

/-- the rate used is never below the floor, whatever the estimator answers -/
theorem C30_rate_ge_floor (est : Option Int) (fb fl : Int) : feeRate est fb fl ≥ fl := by
  rw [feeRate_eq_max]
  exact Int.le_max_right _ _

/-- estimator error or a zero estimate: the configured fallback (raised to the floor) is used -/
theorem C30_rate_fallback (est : Option Int) (fb fl : Int) (h : est = none ∨ est = some 0) :
    feeRate est fb fl = max fb fl := by
  rw [feeRate_eq_max]
  rcases h with rfl | rfl <;> rfl

/-- a non-zero estimate is used as is, raised to the floor -/
theorem C30_rate_estimate (e fb fl : Int) (h : e ≠ 0) : feeRate (some e) fb fl = max e fl := by
  rw [feeRate_eq_max, feeEstimate, if_neg h]

theorem C30_floor_values : Gen.modernFeeFloor = 25 ∧ Gen.legacyFeeFloor = 253 := by decide

/-- the floor is one of the two generated constants … -/
theorem C30_floor_two_values (s : String) :
    feeFloor s = Gen.modernFeeFloor ∨ feeFloor s = Gen.legacyFeeFloor := by
  unfold feeFloor
  split
  · right; rfl
  · split <;> simp

/-- … namely 25 exactly when the parsed (major, minor) is at least (29, 2), otherwise 253;
    strings without a version use the legacy floor -/
theorem C30_floor_gate (s : String) :
    feeFloor s = 25 ↔ ∃ major minor, bitcoinVersion s = some (major, minor) ∧
      (major > 29 ∨ (major = 29 ∧ minor ≥ 2)) := by
  unfold feeFloor
  split
  next h => simp [h, C30_floor_values.2]
  next major minor h =>
    simp only [h, Option.some.injEq, Prod.mk.injEq, and_assoc, exists_and_left, exists_eq_left']
    split <;> simp [*, C30_floor_values.1, C30_floor_values.2]

-- non-vacuity / sanity on concrete strings
example : compareVersions "v0.1.2" "v0.1" = some true := by decide
example : compareVersions "v0.1" "v0.1.2" = some false := by decide
example : compareVersions "v22.11rc1" "22.11.1" = some true := by decide
example : feeFloor "/Satoshi:29.2.0/" = 25 := by decide
example : feeFloor "/Satoshi:29.1.99/" = 253 := by decide

/-! ### version comparison in terms of the numeric components (any numbers of components; missing ones count as zero) -/

def vals (p : List (List Char)) : Option (List Nat) := p.mapM atoi
def padNat (n : Nat) (xs : List Nat) : List Nat := xs ++ List.replicate (n - xs.length) 0

theorem vals_cons (a : List Char) (as : List (List Char)) :
    vals (a :: as) = (atoi a).bind fun x => (vals as).map fun xs => x :: xs := by
  simp [vals, Option.map_eq_bind, Function.comp_def]

theorem vals_append (p q : List (List Char)) :
    vals (p ++ q) = (vals p).bind fun xs => (vals q).map fun ys => xs ++ ys := by
  simp [vals, Option.map_eq_bind, Function.comp_def]

theorem vals_length : ∀ (p : List (List Char)) (xs : List Nat), vals p = some xs → xs.length = p.length
  | [], _, h => by cases h; rfl
  | a :: as, xs, h => by
    simp only [vals_cons, Option.bind_eq_some_iff, Option.map_eq_some_iff] at h
    obtain ⟨x, -, xs', h', rfl⟩ := h
    simp [vals_length as xs' h']

theorem vals_zeros (k : Nat) : vals (List.replicate k ['0']) = some (List.replicate k 0) := by
  induction k with
  | zero => rfl
  | succ k ih => rw [List.replicate_succ, vals_cons, ih]; rfl

theorem vals_padTo (n : Nat) (p : List (List Char)) : vals (padTo n p) = (vals p).map (padNat n) := by
  rw [padTo, vals_append, vals_zeros]
  cases h : vals p with
  | none => rfl
  | some xs => simp [padNat, vals_length p xs h]

/-- on equally many runs the interleaved conversion fails exactly when one of the two sides does -/
theorem convertBoth_eq : ∀ (p q : List (List Char)), p.length = q.length →
    convertBoth p q = (vals p).bind fun xs => (vals q).map fun ys => (xs, ys)
  | [], [], _ => rfl
  | [], _ :: _, h | _ :: _, [], h => by simp at h
  | a :: as, b :: bs, h => by
    rw [convertBoth, convertBoth_eq as bs (by simpa using h), vals_cons, vals_cons]
    cases atoi a <;> cases atoi b <;> cases vals as <;> cases vals bs <;> rfl

/-- `CompareVersionStrings` in terms of the numeric components -/
theorem compareVersions_iff (a b : String) (r : Bool) :
    compareVersions a b = some r ↔
      ∃ xs ys, vals (digitRuns a.toList) = some xs ∧ vals (digitRuns b.toList) = some ys ∧
        r = geLex (padNat (max xs.length ys.length) xs) (padNat (max xs.length ys.length) ys) := by
  simp only [compareVersions]
  rw [convertBoth_eq _ _ (by simp only [padTo, List.length_append, List.length_replicate]; omega),
    vals_padTo, vals_padTo]
  cases ha : vals (digitRuns a.toList) with
  | none => simp
  | some xs =>
    cases hb : vals (digitRuns b.toList) with
    | none => simp
    | some ys => simp [← vals_length _ _ ha, ← vals_length _ _ hb, eq_comm]

/-! ### the order: `geLex` is `≥` of the lexicographic order of lists, at any common padded length -/

theorem geLex_iff_le : ∀ (xs ys : List Nat), xs.length = ys.length → (geLex xs ys = true ↔ ys ≤ xs)
  | [], [], _ => by simp [geLex]
  | [], _ :: _, h | _ :: _, [], h => by simp at h
  | a :: as, b :: bs, h => by
    rw [geLex, List.cons_le_cons_iff, ← geLex_iff_le as bs (by simpa using h)]
    rcases Nat.lt_trichotomy a b with hab | rfl | hab
    · simp [hab, Nat.lt_asymm hab, Nat.ne_of_gt hab]
    · simp
    · simp [hab, Nat.lt_asymm hab]

theorem geLex_self (l : List Nat) : geLex l l = true := (geLex_iff_le l l rfl).mpr (List.le_refl l)

theorem geLex_append (xs ys s : List Nat) (h : xs.length = ys.length) :
    geLex (xs ++ s) (ys ++ s) = geLex xs ys := by
  induction xs generalizing ys with
  | nil =>
    cases ys with
    | nil => exact geLex_self s
    | cons b bs => simp at h
  | cons a as ih =>
    cases ys with
    | nil => simp at h
    | cons b bs => simp only [List.cons_append, geLex, ih bs (by simpa using h)]

theorem padNat_length (n : Nat) (xs : List Nat) (h : xs.length ≤ n) : (padNat n xs).length = n := by
  simp only [padNat, List.length_append, List.length_replicate]; omega

theorem padNat_more (n N : Nat) (xs : List Nat) (h1 : xs.length ≤ n) (h2 : n ≤ N) :
    padNat N xs = padNat n xs ++ List.replicate (N - n) 0 := by
  rw [padNat, padNat, List.append_assoc, List.replicate_append_replicate]
  congr 2; omega

/-- padding to ANY common length gives the comparison the code makes (it pads to the longer operand) -/
theorem geLex_pad_any (xs ys : List Nat) (N : Nat) (hx : xs.length ≤ N) (hy : ys.length ≤ N) :
    geLex (padNat N xs) (padNat N ys) =
      geLex (padNat (max xs.length ys.length) xs) (padNat (max xs.length ys.length) ys) := by
  have hn : max xs.length ys.length ≤ N := by omega
  rw [padNat_more _ N xs (by omega) hn, padNat_more _ N ys (by omega) hn]
  exact geLex_append _ _ _ (by rw [padNat_length _ xs (by omega), padNat_length _ ys (by omega)])

/-- so several strings can be compared at one length, and there the comparison is the order of lists -/
theorem geLex_pad_iff (xs ys : List Nat) (N : Nat) (hx : xs.length ≤ N) (hy : ys.length ≤ N) :
    geLex (padNat (max xs.length ys.length) xs) (padNat (max xs.length ys.length) ys) = true ↔
      padNat N ys ≤ padNat N xs := by
  rw [← geLex_pad_any xs ys N hx hy]
  exact geLex_iff_le _ _ (by rw [padNat_length N xs hx, padNat_length N ys hy])

/-- reflexive: a version is at least itself whenever it converts at all -/
theorem C30_version_refl (a : String) (r : Bool) (h : compareVersions a a = some r) : r = true := by
  obtain ⟨xs, xs', hx, hx', rfl⟩ := (compareVersions_iff a a r).mp h
  cases hx.symm.trans hx'
  exact geLex_self _

/-- **transitive** on version strings with ANY numbers of components: a ≥ b and b ≥ c give a ≥ c (and the
    third comparison does not fail) -/
theorem C30_version_trans (a b c : String) (hab : compareVersions a b = some true) (hbc : compareVersions b c = some true) :
    compareVersions a c = some true := by
  obtain ⟨xs, ys, hxa, hyb, h1⟩ := (compareVersions_iff a b true).mp hab
  obtain ⟨ys', zs, hyb', hzc, h2⟩ := (compareVersions_iff b c true).mp hbc
  cases hyb.symm.trans hyb'
  obtain ⟨N, hx, hy, hz⟩ : ∃ N, xs.length ≤ N ∧ ys.length ≤ N ∧ zs.length ≤ N :=
    ⟨xs.length + ys.length + zs.length, by omega⟩
  have h1 := (geLex_pad_iff xs ys N hx hy).mp h1.symm
  have h2 := (geLex_pad_iff ys zs N hy hz).mp h2.symm
  exact (compareVersions_iff a c true).mpr
    ⟨xs, zs, hxa, hzc, ((geLex_pad_iff xs zs N hx hz).mpr (List.le_trans h2 h1)).symm⟩

/-- **total** on version strings: whenever both comparisons are defined, one of them holds -/
theorem C30_version_total (a b : String) (r1 r2 : Bool) (h1 : compareVersions a b = some r1) (h2 : compareVersions b a = some r2) :
    r1 = true ∨ r2 = true := by
  obtain ⟨xs, ys, hxa, hyb, rfl⟩ := (compareVersions_iff a b r1).mp h1
  obtain ⟨ys', xs', hyb', hxa', rfl⟩ := (compareVersions_iff b a r2).mp h2
  cases hyb.symm.trans hyb'
  cases hxa.symm.trans hxa'
  rw [geLex_pad_iff xs ys (max xs.length ys.length) (by omega) (by omega),
    geLex_pad_iff ys xs (max xs.length ys.length) (by omega) (by omega)]
  exact List.le_total _ _

/-- non-vacuity: comparisons across different numbers of components -/
example : compareVersions "v24.11" "24.2.1" = some true ∧ compareVersions "24.2.1" "v24.2" = some true
    ∧ compareVersions "v24.11" "v24.2" = some true ∧ compareVersions "24" "24.0.0" = some true
    ∧ compareVersions "24.0.0" "24" = some true ∧ compareVersions "24" "24.0.1" = some false := by decide +kernel

end PsVerif.Props.C30
