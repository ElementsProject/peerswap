import PsVerif.Proofs.Service
import PsVerif.Gen.Locks
import PsVerif.Gen.Startup
/-
C10  At most one active swap per channel.

Model: Model/Service.lean (`lockSwap` with the channel id compared in one spelling, `RemoveActiveSwap`,
the request handlers).  Tie: slice `registry` (operation sequences on the real SwapService, including
entry points preempted right after lockSwap) and the generated source facts `Gen.registryAccess` (go/ast):
the model treats lockSwap / RemoveActiveSwap as atomic steps, which is what `C10_registry_atomic` checks
against the source on every run.
-/
namespace PsVerif.Props.C10
open PsVerif.Model PsVerif.Model.Service

theorem lock_inv {r r' : Reg} {e : Entry} (h : RegInv r) (hl : lockSwap r e = .ok r') : RegInv r' := by
  obtain ⟨hid, hch, rfl⟩ := lockSwap_eq_ok.mp hl
  simp only [RegInv, List.map_cons, List.nodup_cons, List.mem_map, not_exists, not_and]
  exact ⟨⟨hch, h.1⟩, hid, h.2⟩

theorem remove_inv {r : Reg} (h : RegInv r) (id : String) : RegInv (removeActive r id) :=
  ⟨h.1.sublist (List.filter_sublist.map _), h.2.sublist (List.filter_sublist.map _)⟩

theorem apply_inv {r : Reg} (h : RegInv r) (op : Op) : RegInv (apply r op) := by
  rcases apply_cases r op with h' | ⟨id, h'⟩ | ⟨e, r', hl, h' | h'⟩ <;> rw [h']
  · exact h
  · exact remove_inv h id
  · exact lock_inv h hl
  · exact (lock_inv h hl : RegInv r')   -- `RegInv` does not look at `stored`

/-- in every registry reachable by any sequence of local initiations, incoming requests, recoveries and
    removals, the active swaps have pairwise different channel ids AFTER normalising the separator, and
    pairwise different swap ids -/
theorem C10_invariant (ops : List Op) : RegInv (ops.foldl apply ⟨[], []⟩) :=
  List.foldlRecOn ops apply ⟨List.nodup_nil, List.nodup_nil⟩ fun _ h op _ => apply_inv h op

/-- a request for a channel that already has an active swap (in either spelling) is not registered and is
    answered with cancel -/
theorem C10_busy_channel_cancelled (r : Reg) (e a : Entry) (ha : a ∈ r.active)
    (hs : clnStyle a.scid = clnStyle e.scid) (hk : known r e.id = false) :
    onRequest r e = (r, .cancelBusy) := by
  have hid : r.active.any (fun x => x.id == e.id) = false := any_beq_eq_false.mpr (known_eq_false.mp hk).1
  have hbusy : r.active.any (fun x => clnStyle x.scid == clnStyle e.scid) = true :=
    List.any_eq_true.mpr ⟨a, ha, by simp [hs]⟩
  simp [onRequest, hk, lockSwap, hid, hbusy]

/-- both spellings of a channel id normalise to the same string -/
theorem C10_spellings (s : String) : clnStyle (lndStyle s) = clnStyle s := by
  unfold clnStyle lndStyle
  simp only [String.toList_ofList, List.map_map]
  congr 1
  apply List.map_congr_left
  intro c _
  by_cases h : c = 'x'
  · subst h; decide
  · simp [h]

/-- the atomicity the model assumes, checked against the source (regenerated by go/ast on every run):
    every method of *SwapService that touches the registry maps holds the service lock for its whole body
    (first statement s.Lock()/s.RLock(), deferred unlock, no other lock calls, no goroutines), writers hold
    the write lock, and `lockSwap` — check and insert — is one write-locked section -/
theorem C10_registry_atomic :
    Gen.registryAccess.all (fun a =>
      decide (a.lock ≠ .none) && decide (a.extraLockCalls = 0) && !a.spawns && (!a.writes || decide (a.lock = .write))) = true
    ∧ Gen.registryAccess.any (fun a => a.fn == "lockSwap" && decide (a.lock = .write) && a.writes) = true
    ∧ Gen.registryAccess.any (fun a => a.fn == "RemoveActiveSwap" && decide (a.lock = .write)) = true := by
  decide

/-- `a` is called before `b` in the start-up sequence of daemon `d` (both present) -/
def startsBefore (d a b : String) : Bool :=
  match PsVerif.Gen.startupOrder.find? (·.1 == d) with
  | none => false
  | some (_, l) => match l.idxOf? a, l.idxOf? b with
    | some i, some j => decide (i < j)
    | _, _ => false

/-- "including swaps restored after a restart": both daemons take the channels of the stored, unfinished swaps
    (`ReserveStoredChannels`) BEFORE the message handler goes live (`Start`), and restore the swaps (`RecoverSwaps`)
    afterwards; the CLN plugin serves peer messages from `Start` on, the LND daemon only from `StartListening` on
    (generated go/ast facts; the harness mirrors this order) -/
theorem C10_startup_order :
    startsBefore "cln" "swapService.ReserveStoredChannels" "swapService.Start" = true
    ∧ startsBefore "cln" "swapService.Start" "swapService.RecoverSwaps" = true
    ∧ startsBefore "lnd" "swapService.ReserveStoredChannels" "swapService.Start" = true
    ∧ startsBefore "lnd" "swapService.ReserveStoredChannels" "lndClient.StartListening" = true
    ∧ startsBefore "lnd" "swapService.RecoverSwaps" "lndClient.StartListening" = true := by
  decide +kernel

end PsVerif.Props.C10
