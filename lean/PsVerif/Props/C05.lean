import PsVerif.Model.Timelock
import PsVerif.Model.Route
import PsVerif.Proofs.Timelock
/-
C05  Bitcoin claim HTLC always expires before the maker can refund via CSV.

Model: `awaitTxConfBtc` (pre-checks of AwaitTxConfirmationAction, Bitcoin branch, with the uint32
wrap of `start + csv/2`), `payIterationBtc` (pay loop guard `(now - start) > csv/2` in uint32),
route deltas final+1 (CLN) and final+BlockPadding (LND).

Full statement (`C05_statement`): for every accepted invoice, every pay height the loop admits and
every confirmation height, `now + delta < conf + csv`.  It is FALSE of this tree (Findings/C05.lean:
both guards admit the boundary value 504 and nothing bounds the confirmation height from below);
recorded as known findings.  Proved here: the exact bound the guards do give (`C05_guards`), and the
property under the extra hypothesis it leaves open (`C05_partial`).
-/
namespace PsVerif.Props.C05
open PsVerif PsVerif.Model PsVerif.Gen

/-- route delta the node's own payment permits on top of the pay height: `pad` = 1 for CLN
    (`delay = final + 1`), `routing.BlockPadding` for LND -/
def htlcExpiry (now : Nat) (cltv : Int) (pad : Nat) : Nat := now + cltv.toNat + pad

def C05_statement : Prop :=
  ∀ (cltv : Int) (msat claim start hAwait now conf pad : Nat),
    pad = 1 ∨ pad = 3 →
    awaitTxConfBtc bitcoinCsv cltv msat claim start hAwait = .ok →
    payIterationBtc bitcoinCsv start now = true →
    conf + 2 ≤ now →                       -- the opening transaction is at least 3 deep when paid
    htlcExpiry now cltv pad < conf + bitcoinCsv

/-- what the two guards give: the invoice's final CLTV is at most csv/2 = 504, the amount is exact, and
    (when `start + 504` does not wrap) the payment is made at most 504 blocks after the start height -/
theorem C05_guards (cltv : Int) (msat claim start hAwait now : Nat)
    (hs : start + 504 < 4294967296) (hn : now < 4294967296)
    (ha : awaitTxConfBtc bitcoinCsv cltv msat claim start hAwait = .ok)
    (hp : payIterationBtc bitcoinCsv start now = true) :
    cltv ≤ 504 ∧ msat = wrapU64 (claim * 1000) ∧ start ≠ 0 ∧ hAwait < start + 504 ∧ now ≤ start + 504 := by
  have hcsv : bitcoinCsv / 2 = 504 := rfl
  obtain ⟨h1, h2, h3, h4⟩ := (awaitTxConfBtc_ok ..).mp ha
  obtain ⟨-, h5⟩ := (payIterationBtc_iff bitcoinCsv start now (by omega) (by omega)).mp hp
  rw [hcsv] at h1 h4 h5
  rw [wrapU32_eq _ (by omega)] at h4
  exact ⟨by omega, h2, h3, h4, h5⟩

/-- the property holds whenever the opening transaction confirmed late enough relative to the taker's
    start height: conf + 1008 > start + 504 + final + pad (e.g. final = 503 needs conf ≥ start + pad) -/
theorem C05_partial (cltv : Int) (msat claim start hAwait now conf pad : Nat)
    (hs : start + 504 < 4294967296) (hn : now < 4294967296)
    (ha : awaitTxConfBtc bitcoinCsv cltv msat claim start hAwait = .ok)
    (hp : payIterationBtc bitcoinCsv start now = true)
    (hconf : start + 504 + cltv.toNat + pad < conf + bitcoinCsv) :
    htlcExpiry now cltv pad < conf + bitcoinCsv := by
  have := C05_guards cltv msat claim start hAwait now hs hn ha hp
  unfold htlcExpiry
  omega

-- non-vacuity: the honest case (final 503, paid 100 blocks after the start, confirmed right after it)
example : awaitTxConfBtc bitcoinCsv 503 1000000000 1000000 800000 800001 = .ok := by decide
example : payIterationBtc bitcoinCsv 800000 800100 = true := by decide

end PsVerif.Props.C05
